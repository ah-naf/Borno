import BornoModel.F64
import BornoModel.Token
import BornoModel.Expect
import BornoModel.ExpectInv
import BornoModel.Lexer
import BornoModel.Ast
import BornoModel.Parser
import BornoModel.Value
import BornoModel.Eval
import BornoModel.Cli
import BornoModel.Nfc
import BornoModel.Gen.Facts
import BornoModel.Gen.Unicode
import BornoModel.Lemmas.ListAux
import BornoModel.Lemmas.SortedLookup
import BornoModel.Props.C01
import BornoModel.Props.C02
import BornoModel.Props.C03
import BornoModel.Props.C04
import BornoModel.Props.C05
import BornoModel.Props.C06
import BornoModel.Props.C07
import BornoModel.Props.C08
import BornoModel.Props.C09
import BornoModel.Props.C10
import BornoModel.Props.C11
import BornoModel.Props.C12
import BornoModel.Props.C13
import BornoModel.Props.C14
import BornoModel.Props.C15
import BornoModel.Props.C16
import BornoModel.Props.C17
import BornoModel.Props.C18
import BornoModel.Props.C19
import BornoModel.Props.C20
/-! The library: the model, the regenerated facts, the lemmas and the twenty property files.
    `Tie.lean` and `TieDigests.lean` are not imported here: `vlib/build.py` elaborates them file by file
    (`lake env lean`), so that a changed fact fails the theorem that names it and nothing else;
    `Lemmas/SortedLookup`, which only `TieDigests` uses, is imported so that it is built with the library. -/
