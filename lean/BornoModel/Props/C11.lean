import BornoModel.Lemmas.EvalInv
/-! # C11 — arrays are bounds-checked shared references; লেন / এড / রিমুভ are pure sequence operations -/
namespace Borno.Props.C11

/-- what an array reference holds -/
def arrOf (σ : Store) (r : Nat) : List Val := σ.arrs[r]?.getD []

/-- `লেন(a)` is the element count, as an ordinary number; the store is untouched -/
theorem len_is_count_number (P : Platform) (σ : Store) (r : Nat) :
    callPure P .len [.arr r] σ = .ok (.num (F64.ofNat (arrOf σ r).length), σ) := rfl

/-- `এড(a, x…)` returns a *fresh* array holding a's elements followed by x…; no existing array changes -/
theorem append_pure (P : Platform) (σ : Store) (r : Nat) (x : Val) (xs : List Val) :
    ∃ σ', callPure P .append (.arr r :: x :: xs) σ = .ok (.arr σ.arrs.length, σ') ∧
      arrOf σ' σ.arrs.length = arrOf σ r ++ x :: xs ∧
      (∀ i, i < σ.arrs.length → σ'.arrs[i]? = σ.arrs[i]?) ∧
      σ'.objs = σ.objs ∧ σ'.envs = σ.envs ∧ σ'.out = σ.out := by
  refine ⟨{ σ with arrs := σ.arrs ++ [arrOf σ r ++ x :: xs] }, rfl, ?_, ?_, rfl, rfl, rfl⟩
  · simp [arrOf]
  · intro i hi; simp [List.getElem?_append_left hi]

/-- `রিমুভ(a, i)` with `0 ≤ i < len` returns a fresh array without the i-th element; nothing else changes -/
theorem remove_pure (P : Platform) (σ : Store) (r : Nat) (iv : Val) (k : Int)
    (hi : toInt64 iv = some k) (h0 : 0 ≤ k) (hlt : k.toNat < (arrOf σ r).length) :
    ∃ σ', callPure P .remove [.arr r, iv] σ = .ok (.arr σ.arrs.length, σ') ∧
      arrOf σ' σ.arrs.length = (arrOf σ r).eraseIdx k.toNat ∧
      (∀ i, i < σ.arrs.length → σ'.arrs[i]? = σ.arrs[i]?) := by
  refine ⟨{ σ with arrs := σ.arrs ++ [(arrOf σ r).eraseIdx k.toNat] }, ?_, ?_, ?_⟩
  · have h1 : ¬ k < 0 := by omega
    have h2 : ¬ (σ.arrs[r]?.getD []).length ≤ k.toNat := by unfold arrOf at hlt; omega
    simp only [callPure, natRemove, hi]
    simp [h1, h2, Store.newArr, arrOf]
  · simp [arrOf]
  · intro i hi'; simp [List.getElem?_append_left hi']

/-- `রিমুভ` with an index that is negative, fractional / non-numeric, or ≥ the length is an error -/
theorem remove_bad_index (P : Platform) (σ : Store) (r : Nat) (iv : Val) :
    (toInt64 iv = none → ∃ m, callPure P .remove [.arr r, iv] σ = .error m) ∧
    (∀ k, toInt64 iv = some k → (k < 0 ∨ (arrOf σ r).length ≤ k.toNat) →
      ∃ m, callPure P .remove [.arr r, iv] σ = .error m) := by
  constructor
  · intro h; simp only [callPure, natRemove, h]; exact ⟨_, rfl⟩
  · intro k hk hb
    simp only [callPure, natRemove, hk]
    have : (k < 0 || decide ((σ.arrs[r]?.getD []).length ≤ k.toNat)) = true := by
      unfold arrOf at hb
      rcases hb with hb | hb <;> simp [hb]
    simp only [ge_iff_le, this]
    exact ⟨_, rfl⟩

/-- the index check accepts exactly the integers `0 ≤ k < len` -/
theorem index_check (σ : Store) (r : Nat) (iv : Val) (msg : String) :
    (∀ k, checkIndex σ (.arr r) iv msg = .ok (r, k) ↔
      (∃ j : Int, toInt64 iv = some j ∧ 0 ≤ j ∧ j.toNat = k ∧ k < (arrOf σ r).length)) :=
  fun _ => checkIndex_eq_ok.trans (and_iff_right rfl)

/-- indexing something that is not an array is an error -/
theorem index_non_array (σ : Store) (a iv : Val) (msg : String) (h : ∀ r, a ≠ .arr r) :
    checkIndex σ a iv msg = .error msg.toList := by
  cases a <;> simp [checkIndex] at h ⊢

/-- `a[i] = v`: afterwards `a[i]` reads v, the length and every other element are unchanged, and so
    is every other array (arrays never grow, wrap or truncate by indexing) -/
theorem index_write_frame (σ : Store) (r k : Nat) (x : Val) (hk : k < (arrOf σ r).length) (hr : r < σ.arrs.length) :
    let σ' : Store := { σ with arrs := σ.arrs.set r ((arrOf σ r).set k x) }
    (arrOf σ' r)[k]? = some x ∧
    (arrOf σ' r).length = (arrOf σ r).length ∧
    (∀ j, j ≠ k → (arrOf σ' r)[j]? = (arrOf σ r)[j]?) ∧
    (∀ r', r' ≠ r → arrOf σ' r' = arrOf σ r') := by
  intro σ'
  have hset : arrOf σ' r = (arrOf σ r).set k x := by
    simp [σ', arrOf, hr]
  refine ⟨?_, ?_, ?_, ?_⟩
  · rw [hset]; simp [hk]
  · rw [hset]; simp
  · intro j hj; rw [hset]; simp [Ne.symm hj]
  · intro r' hr'
    simp [σ', arrOf, Ne.symm hr']

/-- an array value is a reference: reading `a[i]` through any holder of `arr r` consults the one table entry -/
theorem array_is_reference (P : Platform) (f : Nat) (a i : Expr) (line env : Nat) (repl : Bool)
    (σ σ1 σ2 : Store) (r k : Nat) (iv : Val)
    (h0 : σ.hadError = false)
    (ha : evalE P f a env repl σ = .ok (.arr r, .none) σ1)
    (hi : evalE P f i env repl σ1 = .ok (iv, .none) σ2)
    (hc : checkIndex σ2 (.arr r) iv "Invalid array access. Not an array." = .ok (r, k))
    (v : Val) (hv : (arrOf σ2 r)[k]? = some v) :
    evalE P (f + 1) (.arrayAccess a i line) env repl σ = .ok (v, .none) σ2 := by
  rw [evalE, guardErr_ok h0, ha, ER.seq_ok, hi, ER.seq_ok, hc]
  simp only [show (σ2.arrs[r]?.getD [])[k]? = some v from hv]

/-- **arrays never grow, wrap or truncate**: whatever is evaluated — any expression, statement, call,
    loop, built-in —, every array that existed before still exists afterwards with the same length -/
theorem arrays_never_resize (P : Platform) (f : Nat) (e : Expr) (s : Stmt) (env : Nat) (repl : Bool) (σ σ' : Store) (r : Val × Signal)
    (i : Nat) (xs : List Val) (hx : σ.arrs[i]? = some xs) :
    (evalE P f e env repl σ = .ok r σ' → ∃ ys, σ'.arrs[i]? = some ys ∧ ys.length = xs.length) ∧
    (evalS P f s env repl σ = .ok r σ' → ∃ ys, σ'.arrs[i]? = some ys ∧ ys.length = xs.length) :=
  ⟨fun h => (evalE_ext P h).arrs_keep i xs hx, fun h => (evalS_ext P h).arrs_keep i xs hx⟩

end Borno.Props.C11
