import BornoModel.Lemmas.ParseFits
import BornoModel.Lemmas.ParseElse
import BornoModel.Lemmas.ParseComplete
/-! # C01 — accepted programs get the syntax tree the documented grammar prescribes

Four layers: (1) the shape equations of the descent; (2) `fits`: every tree the parser returns
obeys the ladder, for every token list and fuel (so precedence and associativity are facts about
the *tree*, not about one parsing step); (3) completeness and uniqueness: every ladder-fitting
tree is what the parser returns for its own rendering, so two fitting trees with one rendering
are one tree, and the fully parenthesised rendering of *any* tree parses back to it;
(4) `elseOk`: every `else` in a returned tree sits on the nearest `if`.
That the accepted text is exactly the rendering of the returned tree is C08. -/
namespace Borno.Props.C01
open Parser Grammar

/-- the published ladder: eleven left-associative levels, loosest first; every binary operator sits on exactly one level -/
theorem ladder_shape :
    Expect.ladder.length = 11 ∧
    (Expect.ladder.map (·.ops)).flatten.Nodup ∧
    Expect.ladder.map (·.name) = ["logicalOR", "logicalAnd", "bitwiseOR", "bitwiseXOR", "bitwiseAND", "equality",
      "comparison", "shift", "term", "factor", "power"] ∧
    levelOps 10 = [.POWER] ∧ levelOps 9 = [.SLASH, .STAR, .MODULO] ∧ levelOps 8 = [.MINUS, .PLUS] ∧
    levelOps 0 = [.LOGICAL_OR] ∧ levelOps 1 = [.LOGICAL_AND] := by decide

/-- a level parses its left operand with the next tighter level and then loops: operators of
    tighter levels end up deeper in the tree -/
theorem level_descends (f k : Nat) (ts : List Token) (hk : k < nLevels) :
    binLevel (f + 1) k ts = (binLevel f (k + 1) ts).bind fun l r => binLoop f k l r := binLevel_descend hk

/-- binary operators associate to the left: on meeting an operator of its level the loop wraps what it has
    built so far as the LEFT child, takes ONE operand of the next level as the right child, and goes on -/
theorem binary_left_assoc (f k : Nat) (l right : Expr) (t : Token) (r r2 : List Token)
    (ht : (levelOps k).contains t.tt = true) (hr : binLevel f (k + 1) r = .ok right r2) :
    binLoop (f + 1) k l (t :: r) = binLoop f k (mkBin k l t right) r2 := by
  rw [binLoop_op ht, hr, PR.bind]

/-- an operator of another level ends the loop and is left for an outer (looser) level -/
theorem level_stops_at_foreign_operator (f k : Nat) (l : Expr) (t : Token) (r : List Token)
    (ht : (levelOps k).contains t.tt = false) :
    binLoop (f + 1) k l (t :: r) = .ok l (t :: r) := binLoop_stop ht

/-- prefix operators bind tighter than `**`: the operands of the `**` level are parsed by `unary`,
    and a prefix operator takes a `unary` (not a power expression) as its operand -/
theorem prefix_tighter_than_power (f : Nat) (ts : List Token) :
    binLevel (f + 1) nLevels ts = unary f ts ∧ levelOps (nLevels - 1) = [.POWER] :=
  ⟨binLevel_top (Nat.lt_irrefl _), by decide⟩

theorem unary_operand_is_unary (f : Nat) (t : Token) (r : List Token) (ht : Expect.unaryOps.contains t.tt = true) :
    unary (f + 1) (t :: r) = (unary f r).bind fun e r2 => .ok (.unary t.tt t.line e) r2 := unary_op ht

/-- call / index / property suffixes bind tightest and chain left to right: each suffix wraps the
    expression built so far and the loop continues on the result -/
theorem suffix_chain_left_to_right (f : Nat) (e : Expr) (t2 : Token) (r : List Token) (t : Token) :
    (t.tt = .DOT → t2.tt = .IDENTIFIER →
      suffix (f + 1) e (t :: t2 :: r) = suffix f (.propAccess e t2.lexeme t2.line) r) ∧
    (t.tt = .LEFT_PAREN → t2.tt = .RIGHT_PAREN →
      suffix (f + 1) e (t :: t2 :: r) = suffix f (.call e t2.line []) r) :=
  ⟨fun h1 h2 => by rw [suffix_prop h1, expectTok_hit h2, PR.bind], suffix_call0⟩

/-- assignment associates to the right: after `=` the value is parsed by `assignment` itself -/
theorem assign_right_assoc (f : Nat) (ts r1 r2 : List Token) (t : Token) (n : Name) (l : Nat) (v : Expr)
    (hl : binLevel f 0 ts = .ok (.ident n l) (t :: r1)) (ht : t.tt = .EQUAL) (hv : assignment f r1 = .ok v r2) :
    assignment (f + 1) ts = .ok (.assign n l v t.line) r2 := by
  rw [assignment_succ, hl, PR.bind, peekTok_cons, if_pos ht, hv, PR.bind]

/-- a left side that is not a name, an index or a property access is diagnosed at its `=` -/
theorem assign_bad_target (f : Nat) (ts r1 r2 : List Token) (t : Token) (e v : Expr)
    (hl : binLevel f 0 ts = .ok e (t :: r1)) (ht : t.tt = .EQUAL) (hv : assignment f r1 = .ok v r2)
    (h1 : ∀ n l, e ≠ .ident n l) (h2 : ∀ a i l, e ≠ .arrayAccess a i l) (h3 : ∀ o p l, e ≠ .propAccess o p l) :
    assignment (f + 1) ts = .err (errAt t "Invalid assignment target.".toList) := by
  rw [assignment_succ, hl, PR.bind, peekTok_cons, if_pos ht, hv, PR.bind]
  split
  · exact absurd rfl (h1 _ _)
  · exact absurd rfl (h2 _ _ _)
  · exact absurd rfl (h3 _ _ _)
  · rfl

/-- `নাহয়` attaches to the nearest `যদি`: the else is looked for immediately after the then-branch
    has been parsed, i.e. by the innermost pending `if` -/
theorem else_binds_nearest_if (f : Nat) (t e : Token) (r r1 r2 r3 r5 r6 : List Token) (c : Expr) (th el : Stmt) (ds1 ds2 : List Diag)
    (lp rp : Token)
    (ht : t.tt = .IF)
    (h1 : expectTok .LEFT_PAREN "Expect '(' after 'if'." r = .ok lp r1)
    (h2 : assignment f r1 = .ok c r2)
    (h3 : expectTok .RIGHT_PAREN "Expect ')' after if condition." r2 = .ok rp r3)
    (h4 : statement f r3 = .ok th (e :: r5) ds1) (he : e.tt = .ELSE)
    (h5 : statement f r5 = .ok el r6 ds2) :
    statement (f + 1) (t :: r) = .ok (.ifS c th (some el)) r6 (ds1 ++ ds2) := by
  simp only [statement_if ht, h1, h2, h3, PR.bind, PR.toSR, SR.bind, h4, peekTokS_cons, if_pos he, h5, List.nil_append, List.append_nil]

/-- whatever `expression` returns, for any tokens and any fuel, fits the ladder at every node -/
theorem parsed_expression_fits (f : Nat) (ts : List Token) (e : Expr) (r : List Token)
    (h : assignment f ts = .ok e r) : fits 0 e = true := (parses_of_run f .assignment h).ladder

/-- the ladder level of the operator at the root of a tree -/
def topLevel : Expr → Option Nat
  | .binary _ op _ _ => levelOf op
  | .logical _ op _ => levelOf op
  | _ => none

/-- a binary / logical node standing at position `p` has a root operator of level ≥ `p - 1` -/
theorem fits_top {p j : Nat} {e : Expr} (h : fits p e = true) (ht : topLevel e = some j) : p ≤ j + 1 := by
  cases e with
  | binary _ op _ _ | logical _ op _ =>
    simp only [topLevel] at ht
    simp only [fits, ht, Bool.and_eq_true, decide_eq_true_eq] at h
    exact h.1.1.1
  | _ => cases ht

theorem topLevel_lt {e : Expr} {j : Nat} (h : topLevel e = some j) : j < nLevels := by
  cases e with
  | binary _ op _ _ | logical _ op _ => exact (levelOf_mem h).1
  | _ => cases h

theorem node_children_levels {p : Nat} {l r : Expr} {op : TT} {nk : Expect.NodeKind}
    (h : (match levelOf op with
          | some j => decide (p ≤ j + 1) && (levelNode j == nk) && fits (j + 1) l && fits (j + 2) r
          | none => false) = true) :
    ∃ j, levelOf op = some j ∧ levelNode j = nk ∧
      (∀ jl, topLevel l = some jl → j ≤ jl) ∧ (∀ jr, topLevel r = some jr → j < jr) := by
  split at h
  · rename_i j hj
    simp only [Bool.and_eq_true, decide_eq_true_eq, beq_iff_eq] at h
    refine ⟨j, hj, h.1.1.2, fun jl hl => ?_, fun jr hr => ?_⟩
    · have := fits_top h.1.2 hl; omega
    · have := fits_top h.2 hr; omega
  · cases h

/-- binary operators group by level and associate to the left: in a fitting tree, a binary node of
    level `j` has a left child whose root operator is of level ≥ `j` (equal allowed) and a right
    child whose root operator is of level > `j` (strictly tighter) -/
theorem binary_children_levels {p : Nat} {l r : Expr} {op : TT} {ln : Nat} (h : fits p (.binary l op ln r) = true) :
    ∃ j, levelOf op = some j ∧ levelNode j = .binary ∧
      (∀ jl, topLevel l = some jl → j ≤ jl) ∧ (∀ jr, topLevel r = some jr → j < jr) :=
  node_children_levels (by rwa [fits] at h)

theorem logical_children_levels {p : Nat} {l r : Expr} {op : TT} (h : fits p (.logical l op r) = true) :
    ∃ j, levelOf op = some j ∧ levelNode j = .logical ∧
      (∀ jl, topLevel l = some jl → j ≤ jl) ∧ (∀ jr, topLevel r = some jr → j < jr) :=
  node_children_levels (by rwa [fits] at h)

/-- an assignment never stands as an operand: only at position 0 (statement level, inside
    brackets / parentheses / argument lists, or as the value of another assignment: right-associativity) -/
theorem assign_only_at_top {p : Nat} {e : Expr}
    (ha : (∃ n l v ln, e = .assign n l v ln) ∨ (∃ a i v ln, e = .arrayAssign a i v ln) ∨ (∃ o q v ln, e = .propAssign o q v ln))
    (h : fits p e = true) : p = 0 := by
  rcases ha with ⟨n, l, v, ln, rfl⟩ | ⟨a, i, v, ln, rfl⟩ | ⟨o, q, v, ln, rfl⟩ <;>
    exact Nat.le_zero.1 (fits_iff.1 h).1

/-- prefix operators bind tighter than every binary operator (`**` included): the operand of a
    prefix operator is never a binary / logical node -/
theorem unary_operand_tight {p : Nat} {op : TT} {ln : Nat} {e : Expr} (h : fits p (.unary op ln e) = true) :
    topLevel e = none ∧ Expect.unaryOps.contains op = true := by
  simp only [fits, Bool.and_eq_true, decide_eq_true_eq] at h
  refine ⟨?_, h.1.2⟩
  cases ht : topLevel e with
  | none => rfl
  | some j =>
    have h1 := fits_top h.2 ht
    have h2 := topLevel_lt ht
    have hn : nLev = nLevels := rfl
    omega

/-- suffixes bind tightest: the callee / indexed / dereferenced expression is never a prefix,
    binary, logical or assignment node (it is a primary or another suffix: they chain to the left) -/
theorem suffix_target_tightest {p : Nat} {c : Expr}
    (h : (∃ ln args, fits p (.call c ln args) = true) ∨ (∃ i ln, fits p (.arrayAccess c i ln) = true) ∨ (∃ q ln, fits p (.propAccess c q ln) = true)) :
    fits (nLevels + 2) c = true := by
  rcases h with ⟨ln, args, h⟩ | ⟨i, ln, h⟩ | ⟨q, ln, h⟩ <;> simp only [fits, Bool.and_eq_true, decide_eq_true_eq] at h
  · exact h.1.2
  · exact h.1.2
  · exact h.2

/-- non-vacuity: `1 + 2 * 3 - 4` fits as `(1 + (2 * 3)) - 4` and not as `1 + (2 * (3 - 4))` -/
example :
    let n (k : Nat) : Expr := .literal .nil k
    fits 0 (.binary (.binary (n 1) .PLUS 1 (.binary (n 2) .STAR 1 (n 3))) .MINUS 1 (n 4)) = true ∧
    fits 0 (.binary (n 1) .PLUS 1 (.binary (n 2) .STAR 1 (.binary (n 3) .MINUS 1 (n 4)))) = false := by decide +kernel

/-- every tree that fits the ladder is what `expression` returns for its own rendering (followed by
    any token that cannot continue an expression), up to line fields, for all large enough fuel -/
theorem parse_complete (e : Expr) (hf : fits 0 e = true) (t : Token) (rest : List Token) (ht : followA t.tt = true) :
    ∃ f0, ∀ f, f0 ≤ f → assignment f (toks e ++ t :: rest) = .ok (eraseE e) (t :: rest) :=
  assignment_complete e hf t rest ht

/-- the published ladder determines the tree: two fitting trees with the same rendering are equal
    up to line fields -/
theorem tree_unique (e1 e2 : Expr) (h1 : fits 0 e1 = true) (h2 : fits 0 e2 = true) (h : rExpr e1 = rExpr e2) :
    eraseE e1 = eraseE e2 := rendering_injective e1 e2 h1 h2 h

/-- hence what the parser returns is *the* tree of the ladder for the tokens it consumed: any
    fitting tree with the same rendering as the returned one is the returned one -/
theorem parsed_is_the_unique_tree (f : Nat) (ts : List Token) (e : Expr) (r : List Token)
    (h : assignment f ts = .ok e r) (e' : Expr) (hf : fits 0 e' = true) (hr : rExpr e' = rExpr e) :
    eraseE e' = eraseE e := rendering_injective e' e hf (parsed_expression_fits f ts e r h) hr

/-- writing any syntax tree out with explicit parentheses and parsing that text gives back the
    same tree: the parser returns the parenthesised tree, whose `Grouping`-free form is the
    original's -/
theorem paren_roundtrip (e : Expr) (h : opsOk e = true) (t : Token) (rest : List Token) (ht : followA t.tt = true) :
    (∃ f0, ∀ f, f0 ≤ f → assignment f (toks (paren e) ++ t :: rest) = .ok (eraseE (paren e)) (t :: rest)) ∧
    strip (paren e) = strip e := Parser.paren_roundtrip e h t rest ht

/-- non-vacuity: `;`, `)`, `,`, EOF may follow an expression; `a = 1 + 2 * -b(3)[0].p` (as a tree) fits, and so does any
    well-formed tree once parenthesised — even `(1 + 2) * 3` written as a product of a sum -/
example :
    followA .SEMICOLON = true ∧ followA .RIGHT_PAREN = true ∧ followA .COMMA = true ∧ followA .EOF = true ∧ followA .PLUS = false ∧
    (let n (k : Nat) : Expr := .literal .nil k
     fits 0 (.assign ['a'] 1 (.binary (n 1) .PLUS 1 (.binary (n 2) .STAR 1
        (.unary .MINUS 1 (.propAccess (.arrayAccess (.call (.ident ['b'] 1) 1 [n 3]) (n 0) 1) ['p'] 1)))) 1) = true ∧
     fits 0 (.binary (.binary (n 1) .PLUS 1 (n 2)) .STAR 1 (n 3)) = false ∧
     opsOk (.binary (.binary (n 1) .PLUS 1 (n 2)) .STAR 1 (n 3)) = true ∧
     fits 0 (paren (.binary (.binary (n 1) .PLUS 1 (n 2)) .STAR 1 (n 3))) = true) := by decide +kernel

/-- in every tree `Parse` returns (with or without lenient diagnostics), the then-branch of each
    `if … else` is closed: the `else` could not have belonged to an inner `if` -/
theorem else_attaches_to_nearest_if (f : Nat) (ts : List Token) (p : List Stmt) (r : List Token) (ds : List Diag)
    (h : program f ts = .ok p r ds) : elseOkAll p = true := (parsesS_of_run f .program h).else_ok

/-- the reason: a statement that ends in an else-less `if` is never followed by `ELSE` -/
theorem open_if_takes_the_else (f : Nat) (ts : List Token) (s : Stmt) (t : Token) (r : List Token) (ds : List Diag)
    (h : statement f ts = .ok s (t :: r) ds) (ho : openIf s = true) : t.tt ≠ .ELSE :=
  (parsesS_of_run f .statement h).else_ok.2 ho t r rfl

/-- non-vacuity: `if (a) if (b) x; else y;` with the else on the inner `if` is fine, on the outer one is not -/
example :
    let e : Expr := .literal .nil 1
    elseOk (.ifS e (.ifS e (.expr e) (some (.expr e))) none) = true ∧
    elseOk (.ifS e (.ifS e (.expr e) none) (some (.expr e))) = false := by decide +kernel

end Borno.Props.C01
