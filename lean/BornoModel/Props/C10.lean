import BornoModel.Value
/-! # C10 — numeric literals denote the correctly rounded value in either digit script -/
namespace Borno.Props.C10
open Lexer

/-- a character is a digit iff it is an ASCII digit or one of the ten Bangla digits — for every character -/
theorem isDigit_iff (c : Char) :
    isDigit c = true ↔ (0x30 ≤ c.toNat ∧ c.toNat ≤ 0x39) ∨ (0x9E6 ≤ c.toNat ∧ c.toNat ≤ 0x9EF) := by
  simp [isDigit, Expect.digitRanges]

/-- the replacement table, as arithmetic on the code point -/
theorem lookup_digitMap (n : Nat) :
    Expect.digitMap.lookup n = if 0x9E6 ≤ n ∧ n ≤ 0x9EF then some (n - 0x9E6 + 0x30) else none := by
  have tab : (∀ k : Fin 10, Expect.digitMap.lookup (0x9E6 + k.1) = some (k.1 + 0x30)) ∧
      ∀ p ∈ Expect.digitMap, 0x9E6 ≤ p.1 ∧ p.1 ≤ 0x9EF := by decide
  by_cases h : 0x9E6 ≤ n ∧ n ≤ 0x9EF
  · obtain ⟨k, rfl⟩ : ∃ k : Fin 10, n = 0x9E6 + k.1 := ⟨⟨n - 0x9E6, by omega⟩, by simp only; omega⟩
    rw [if_pos h, tab.1 k, Nat.add_sub_cancel_left]
  · rw [if_neg h, List.lookup_eq_none_iff]
    intro p hp
    have := tab.2 p hp
    simp only [bne_iff_ne, ne_eq]
    omega

/-- only the ten Bangla digits are transliterated; every other character is left alone -/
theorem translit_other (c : Char) (h : ¬ (0x9E6 ≤ c.toNat ∧ c.toNat ≤ 0x9EF)) : translitChar c = c := by
  unfold translitChar; rw [lookup_digitMap, if_neg h]

/-- a Bangla digit becomes the ASCII digit of the same value -/
theorem translit_digit (c : Char) (h : 0x9E6 ≤ c.toNat ∧ c.toNat ≤ 0x9EF) :
    translitChar c = Char.ofNat (c.toNat - 0x9E6 + 0x30) := by
  unfold translitChar; rw [lookup_digitMap, if_pos h]

theorem toNat_ofNat_small (n : Nat) (h : n < 0xd800) : (Char.ofNat n).toNat = n := by
  have hv : n.isValidChar := Or.inl h
  simp [Char.ofNat, hv, Char.toNat, Char.ofNatAux]

/-- transliteration maps into ASCII digits, on which it is the identity: it is idempotent, so a
    literal and the same literal with any digits swapped to the other script transliterate alike -/
theorem translit_idem (c : Char) : translitChar (translitChar c) = translitChar c := by
  by_cases h : 0x9E6 ≤ c.toNat ∧ c.toNat ≤ 0x9EF
  · rw [translit_digit c h]
    apply translit_other
    rw [toNat_ofNat_small _ (by omega)]
    omega
  · simp [translit_other c h]

/-- swapping a digit for its counterpart in the other script does not change the transliterated text -/
theorem script_swap_invariant (c : Char) (h : 0x30 ≤ c.toNat ∧ c.toNat ≤ 0x39) :
    translitChar (Char.ofNat (c.toNat + 0x9B6)) = c ∧ translitChar c = c := by
  constructor
  · have hn : (Char.ofNat (c.toNat + 0x9B6)).toNat = c.toNat + 0x9B6 := toNat_ofNat_small _ (by omega)
    rw [translit_digit _ (by rw [hn]; omega), hn]
    have : c.toNat + 0x9B6 - 0x9E6 + 0x30 = c.toNat := by omega
    rw [this]
    exact Char.ofNat_toNat c
  · exact translit_other c (by omega)

/-- the shape of a number lexeme: a digit run, then a point and a digit run only if a digit follows
    the point — `1.` and `1.x` leave the point for the next token -/
theorem fraction_needs_a_digit (r : List Char) :
    numFrac ['.'] = ([], ['.']) ∧ numFrac [] = ([], []) ∧
    (∀ x, isDigit x = false → numFrac ('.' :: x :: r) = ([], '.' :: x :: r)) ∧
    (∀ d, isDigit d = true → numFrac ('.' :: d :: r) = ('.' :: d :: r.takeWhile isDigit, r.dropWhile isDigit)) := by
  refine ⟨rfl, rfl, fun x hx => ?_, fun d hd => ?_⟩
  · simp [numFrac, hx]
  · simp [numFrac, hd]

/-- the two outcomes of scanning a number -/
theorem scanNumber_cases (c : Char) (r : List Char) (line : Nat) :
    (∃ x, F64.parseFloat (translit (c :: r.takeWhile isDigit ++ (numFrac (r.dropWhile isDigit)).1)) = .ok x ∧
      scanNumber c r line = ⟨some ⟨.NUMBER, c :: r.takeWhile isDigit ++ (numFrac (r.dropWhile isDigit)).1, .num x, line⟩, none,
        c :: r.takeWhile isDigit ++ (numFrac (r.dropWhile isDigit)).1, (numFrac (r.dropWhile isDigit)).2, line⟩) ∨
    ((∀ x, F64.parseFloat (translit (c :: r.takeWhile isDigit ++ (numFrac (r.dropWhile isDigit)).1)) ≠ .ok x) ∧
      scanNumber c r line = ⟨none, some (.static line [] invalidNumber),
        c :: r.takeWhile isDigit ++ (numFrac (r.dropWhile isDigit)).1, (numFrac (r.dropWhile isDigit)).2, line⟩) := by
  unfold scanNumber
  simp only
  cases hp : F64.parseFloat (translit (c :: r.takeWhile isDigit ++ (numFrac (r.dropWhile isDigit)).1)) with
  | ok x => exact Or.inl ⟨x, rfl, rfl⟩
  | range => exact Or.inr ⟨fun x h => (by cases h), rfl⟩
  | «syntax» => exact Or.inr ⟨fun x h => (by cases h), rfl⟩

theorem number_lexeme_shape (c : Char) (r : List Char) (line : Nat) :
    (scanNumber c r line).used = c :: r.takeWhile isDigit ++ (numFrac (r.dropWhile isDigit)).1 ∧
    (scanNumber c r line).rest = (numFrac (r.dropWhile isDigit)).2 := by
  rcases scanNumber_cases c r line with ⟨x, _, h⟩ | ⟨_, h⟩ <;> rw [h] <;> exact ⟨rfl, rfl⟩

/-- the value of a NUMBER token is `strconv.ParseFloat` of its transliterated lexeme; the lexeme is
    the text consumed -/
theorem literal_value (c : Char) (r : List Char) (line : Nat) (t : Token) (h : (scanNumber c r line).tok = some t) :
    t.tt = .NUMBER ∧ t.lexeme = (scanNumber c r line).used ∧ t.line = line ∧
    ∃ x, t.lit = .num x ∧ F64.parseFloat (translit t.lexeme) = .ok x ∧ (scanNumber c r line).diag = none := by
  rcases scanNumber_cases c r line with ⟨x, hx, hs⟩ | ⟨_, hs⟩
  · rw [hs] at h ⊢
    simp only [Option.some.injEq] at h
    subst h
    exact ⟨rfl, rfl, rfl, x, rfl, hx, rfl⟩
  · rw [hs] at h; cases h

/-- a literal whose transliterated text `ParseFloat` rejects (a value beyond the largest double
    included: Go reports a range error for it) yields no token and is diagnosed on its line -/
theorem overflow_is_diagnosed (c : Char) (r : List Char) (line : Nat)
    (h : ∀ x, F64.parseFloat (translit (scanNumber c r line).used) ≠ .ok x) :
    (scanNumber c r line).tok = none ∧ (scanNumber c r line).diag = some (.static line [] invalidNumber) := by
  rcases scanNumber_cases c r line with ⟨x, hx, hs⟩ | ⟨_, hs⟩
  · rw [hs] at h; exact absurd hx (h x)
  · rw [hs]; exact ⟨rfl, rfl⟩

/-- the value depends on the lexeme only through its transliteration: writing any of its digits in
    the other script gives the same double, bit for bit -/
theorem literal_depends_on_translit (c c' : Char) (r r' : List Char) (line line' : Nat) (t t' : Token)
    (h : (scanNumber c r line).tok = some t) (h' : (scanNumber c' r' line').tok = some t')
    (heq : translit t.lexeme = translit t'.lexeme) : t.lit = t'.lit := by
  obtain ⟨_, _, _, x, hx, hp, _⟩ := literal_value c r line t h
  obtain ⟨_, _, _, x', hx', hp', _⟩ := literal_value c' r' line' t' h'
  rw [heq, hp'] at hp
  cases hp
  rw [hx, hx']

/-- run-time coercion of a string reads a number exactly as the lexer reads a literal:
    the same transliteration, then the same `ParseFloat` -/
theorem runtime_coercion_same_translit (s : List Char) :
    toNumber (.str s) = (match F64.parseFloat (translit s) with | .ok x => some x | _ => none) := rfl

end Borno.Props.C10
