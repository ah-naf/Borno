import BornoModel.Lemmas.EvalEqs
/-! # C17 — math built-ins compute their mathematical function; misuse is a reported error -/
namespace Borno.Props.C17
open Expect

theorem math1_ok (f : F64 → F64) (what : String) (σ : Store) {a : Val} {x : F64} (h : toNumber a = some x) :
    math1 f [a] σ what = .ok (.num (f x), σ) := by
  simp only [math1, numArg, h, Except.map]

theorem math1_type_error (f : F64 → F64) (what : String) (σ : Store) {a : Val} (h : toNumber a = none) :
    math1 f [a] σ what = .error "argument must be a number".toList := by
  simp only [math1, numArg, h, Except.map]

/-- abs, sqrt and rounding are the exact F64 operations on the coerced argument;
    sin, cos, tan apply the platform's function to it -/
theorem unary_builtins (P : Platform) (σ : Store) (a : Val) (x : F64) (h : toNumber a = some x) :
    callPure P .abs [a] σ = .ok (.num x.abs, σ) ∧
    callPure P .sqrt [a] σ = .ok (.num x.sqrt, σ) ∧
    callPure P .round [a] σ = .ok (.num x.round, σ) ∧
    callPure P .sin [a] σ = .ok (.num (P.sin x), σ) ∧
    callPure P .cos [a] σ = .ok (.num (P.cos x), σ) ∧
    callPure P .tan [a] σ = .ok (.num (P.tan x), σ) := by
  simp only [callPure, math1_ok _ _ σ h, and_self]

/-- an argument that is not a number (or a string reading as one) is an error, never a value -/
theorem unary_type_error (P : Platform) (σ : Store) (a : Val) (h : toNumber a = none)
    (n : Native) (hn : n ∈ [Native.abs, .sqrt, .round, .sin, .cos, .tan]) :
    callPure P n [a] σ = .error "argument must be a number".toList := by
  simp only [List.mem_cons, List.not_mem_nil, or_false] at hn
  rcases hn with rfl | rfl | rfl | rfl | rfl | rfl <;> simp only [callPure, math1_type_error _ _ σ h]

/-- `ঘাত(a, b)` applies the same platform function to the same coerced operands as `a ** b` -/
theorem pow_builtin_eq_operator (P : Platform) (σ : Store) (a b : Val) (x y : F64)
    (ha : toNumber a = some x) (hb : toNumber b = some y) :
    callPure P .pow [a, b] σ = .ok (.num (P.pow x y), σ) ∧
    binop P σ .POWER a b = .ok (.num (P.pow x y)) := by
  simp [callPure, natPow, numArg, binop, numPair, ha, hb, Except.map]

/-- the arities the call site enforces (`-1`: variadic, checked by the built-in itself) -/
theorem arities :
    arity .clock = 0 ∧ arity .len = 1 ∧ arity .append = -1 ∧ arity .remove = 2 ∧ arity .delete = 2 ∧
    arity .keys = 1 ∧ arity .values = 1 ∧ arity .abs = 1 ∧ arity .sqrt = 1 ∧ arity .pow = 2 ∧
    arity .sin = 1 ∧ arity .cos = 1 ∧ arity .tan = 1 ∧ arity .min = -1 ∧ arity .max = -1 ∧
    arity .round = 1 ∧ arity .input = -1 := by decide

/-- a call with the wrong number of arguments to a fixed-arity callee is a runtime error and the
    callee is not invoked -/
theorem arity_mismatch_error (P : Platform) (f : Nat) (c : Expr) (args : List Expr) (line env : Nat) (repl : Bool)
    (σ σ1 : Store) (n : Native) (h0 : σ.hadError = false)
    (hc : evalE P f c env repl σ = .ok (.native n, .none) σ1)
    (hk : arity n ≠ -1) (hm : (args.length : Int) ≠ arity n) :
    ∃ m, evalE P (f + 1) (.call c line args) env repl σ = .ok (.nil, .none) (σ1.rte m line) ∧
      (σ1.rte m line).nativeCalls = σ1.nativeCalls := by
  refine ⟨arityMsg (arity n) args.length, ?_, rfl⟩
  rw [evalE, guardErr_ok h0, hc, ER.seq_ok]
  simp [arityOf, hk, hm, nilOk]

theorem minmaxArgs_empty_error (better : F64 → F64 → Bool) (what : String) (args : List Val) (σ : Store)
    (h : minmaxArgs σ args = []) : ∃ m, minmax better what args σ = .error m := by
  cases args with
  | nil => exact ⟨_, rfl⟩
  | cons a as => unfold minmax; simp only [h]; exact ⟨_, rfl⟩

/-- nothing to compare: `সর্বনিম্ন()` / `সর্বোচ্চ()` / an empty array are errors -/
theorem minmax_empty_error (P : Platform) (σ : Store) (r : Nat) (h : σ.arrs[r]? = some []) :
    (∃ m, callPure P .min [] σ = .error m) ∧ (∃ m, callPure P .max [] σ = .error m) ∧
    (∃ m, callPure P .min [.arr r] σ = .error m) ∧ (∃ m, callPure P .max [.arr r] σ = .error m) := by
  have hr : minmaxArgs σ [.arr r] = [] := by simp only [minmaxArgs, h, Option.getD_some]
  unfold callPure
  exact ⟨minmaxArgs_empty_error _ _ _ σ rfl, minmaxArgs_empty_error _ _ _ σ rfl, minmaxArgs_empty_error _ _ _ σ hr,
    minmaxArgs_empty_error _ _ _ σ hr⟩

theorem extremum_cons_ok {better : F64 → F64 → Bool} {acc m : F64} {v : Val} {vs : List Val}
    (h : extremum better acc (v :: vs) = .ok m) :
    ∃ x, toNumber v = some x ∧ extremum better (if better x acc then x else acc) vs = .ok m := by
  unfold extremum at h
  split at h
  · cases h
  · exact ⟨_, ‹_›, h⟩

/-- the fold of min / max returns one of the numbers it was given -/
theorem extremum_mem (better : F64 → F64 → Bool) (acc : F64) (vs : List Val) (m : F64)
    (h : extremum better acc vs = .ok m) :
    m = acc ∨ ∃ v ∈ vs, toNumber v = some m := by
  induction vs generalizing acc with
  | nil => cases h; exact Or.inl rfl
  | cons v vs ih =>
    obtain ⟨x, hv, h⟩ := extremum_cons_ok h
    rcases ih _ h with h1 | ⟨w, hw, hw'⟩
    · split at h1
      · exact Or.inr ⟨v, List.mem_cons_self, h1 ▸ hv⟩
      · exact Or.inl h1
    · exact Or.inr ⟨w, List.mem_cons_of_mem _ hw, hw'⟩

/-- `<` on doubles is irreflexive and transitive (NaN compares false with everything) -/
theorem lt_irrefl (x : F64) : F64.lt x x = false := by
  cases x with
  | nan => rfl
  | inf a => cases a <;> rfl
  | fin n m e => simp [F64.lt, Rat.lt_irrefl]

theorem lt_trans (x y z : F64) (h1 : F64.lt x y = true) (h2 : F64.lt y z = true) : F64.lt x z = true := by
  cases x <;> cases y <;> cases z <;> simp_all [F64.lt]
  -- what is left: three finite numbers, and `<` on their rational values
  exact Std.lt_trans h1 h2

/-- the fold only ever replaces its accumulator by something strictly better -/
theorem extremum_improves (better : F64 → F64 → Bool)
    (htr : ∀ x y z, better x y = true → better y z = true → better x z = true)
    (acc : F64) (vs : List Val) (m : F64) (h : extremum better acc vs = .ok m) :
    m = acc ∨ better m acc = true := by
  induction vs generalizing acc with
  | nil => cases h; exact Or.inl rfl
  | cons v vs ih =>
    obtain ⟨x, -, h⟩ := extremum_cons_ok h
    by_cases hb : better x acc = true
    · rw [if_pos hb] at h
      rcases ih _ h with rfl | h2
      · exact Or.inr hb
      · exact Or.inr (htr _ _ _ h2 hb)
    · rw [if_neg hb] at h
      exact ih _ h

theorem not_beaten {better : F64 → F64 → Bool}
    (htr : ∀ x y z, better x y = true → better y z = true → better x z = true)
    {m a x : F64} (hm : m = a ∨ better m a = true) (hx : better x a = false) : better x m = false := by
  rcases hm with rfl | hm
  · exact hx
  · exact Bool.eq_false_iff.mpr fun h => Bool.eq_false_iff.mp hx (htr _ _ _ h hm)

/-- whatever order `better` is, as long as it is irreflexive and transitive: the fold returns a
    value that no argument (and not the seed) beats -/
theorem extremum_optimal (better : F64 → F64 → Bool) (hirr : ∀ x, better x x = false)
    (htr : ∀ x y z, better x y = true → better y z = true → better x z = true)
    (acc : F64) (vs : List Val) (m : F64) (h : extremum better acc vs = .ok m) :
    better acc m = false ∧ ∀ v ∈ vs, ∀ x, toNumber v = some x → better x m = false := by
  refine ⟨not_beaten htr (extremum_improves better htr acc vs m h) (hirr acc), ?_⟩
  induction vs generalizing acc with
  | nil => intro v hv; cases hv
  | cons v vs ih =>
    obtain ⟨x, hv, h'⟩ := extremum_cons_ok h
    intro w hw y hy
    rcases List.mem_cons.mp hw with rfl | hw
    · cases hv.symm.trans hy
      -- `m` is no worse than the accumulator after `x`, which `x` does not beat
      refine not_beaten htr (extremum_improves better htr _ vs m h') ?_
      split
      · exact hirr x
      · exact Bool.eq_false_iff.mpr ‹_›
    · exact ih _ h' w hw y hy

/-- `সর্বনিম্ন`: no argument is smaller than the result; `সর্বোচ্চ`: none is greater — for all arguments,
    NaN included (it compares false with everything) -/
theorem min_least (acc : F64) (vs : List Val) (m : F64) (h : extremum F64.lt acc vs = .ok m) :
    F64.lt acc m = false ∧ ∀ v ∈ vs, ∀ x, toNumber v = some x → F64.lt x m = false :=
  extremum_optimal F64.lt lt_irrefl lt_trans acc vs m h

theorem max_greatest (acc : F64) (vs : List Val) (m : F64) (h : extremum F64.gt acc vs = .ok m) :
    F64.lt m acc = false ∧ ∀ v ∈ vs, ∀ x, toNumber v = some x → F64.lt m x = false :=
  extremum_optimal F64.gt (fun x => lt_irrefl x) (fun x y z h1 h2 => lt_trans z y x h2 h1) acc vs m h

/-- the array form and the list form agree: `সর্বনিম্ন([a, b, c])` is `সর্বনিম্ন(a, b, c)` (unless the list is itself a
    single array, which the list form would flatten again) -/
theorem list_and_array_forms_agree (better : F64 → F64 → Bool) (what : String) (σ : Store) (r : Nat) (xs : List Val)
    (hr : σ.arrs[r]? = some xs) (hne : xs ≠ []) (hflat : ∀ r', xs ≠ [.arr r']) :
    minmax better what [.arr r] σ = minmax better what xs σ := by
  have h1 : minmaxArgs σ [.arr r] = xs := by simp [minmaxArgs, hr]
  have h2 : minmaxArgs σ xs = xs := by
    unfold minmaxArgs
    split
    · rename_i r' ; exact absurd rfl (hflat r')
    · rfl
  cases xs with
  | nil => exact absurd rfl hne
  | cons a as =>
    unfold minmax
    simp only [h1, h2]

/-- an argument that is not a number makes min / max fail -/
theorem extremum_type_error (better : F64 → F64 → Bool) (acc : F64) (vs : List Val) (v : Val)
    (hv : v ∈ vs) (hn : toNumber v = none) : ∃ m, extremum better acc vs = .error m := by
  induction vs generalizing acc with
  | nil => simp at hv
  | cons w ws ih =>
    unfold extremum
    cases hw : toNumber w with
    | none => exact ⟨_, rfl⟩
    | some x =>
      simp only
      rcases List.mem_cons.mp hv with rfl | h'
      · rw [hn] at hw; cases hw
      · exact ih _ h'

/-- `ক্লক()` is the platform's clock -/
theorem clock_is_now (P : Platform) (σ : Store) : callPure P .clock [] σ = .ok (.num P.now, σ) := rfl

end Borno.Props.C17
