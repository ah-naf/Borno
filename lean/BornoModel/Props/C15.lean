import BornoModel.Lemmas.EvalEqs
import BornoModel.Lemmas.Show
/-! # C15 — দেখাও prints each value faithfully, newline-terminated, consistent with + -/
namespace Borno.Props.C15

/-- each executed print appends the NFC-normalised text of the value and exactly one newline -/
theorem print_appends_one_line (P : Platform) (f : Nat) (e : Expr) (env : Nat) (repl : Bool) (σ σ1 : Store) (v : Val) (t : List Char)
    (h0 : σ.hadError = false) (he : evalE P f e env repl σ = .ok (v, .none) σ1) (h1 : σ1.hadError = false)
    (ht : stringify σ1 (showFuel σ1) v = some t) :
    ∃ σ2, evalS P (f + 1) (.print e) env repl σ = .ok (.nil, .none) σ2 ∧
      σ2.out = σ1.out ++ P.nfc t ++ ['\n'] ∧ σ2.diags = σ1.diags ∧ σ2.input = σ1.input := by
  refine ⟨σ1.print (P.nfc t ++ ['\n']), ?_, (List.append_assoc ..).symm, rfl, rfl⟩
  rw [evalS, guardErr_ok h0, he]
  simp [h1, ht, nilOk]

/-- the text of the constants, of a string (its characters, wherever it sits) and of a number -/
theorem stringify_consts (σ : Store) (f : Nat) (s : List Char) (x : F64) (b : Bool) :
    stringify σ (f + 1) .nil = some "nil".toList ∧
    stringify σ (f + 1) (.bool b) = some (if b then "true".toList else "false".toList) ∧
    stringify σ (f + 1) (.str s) = some s ∧
    showNested σ (f + 1) (.str s) = some s ∧
    stringify σ (f + 1) (.num x) = some x.fmtV ∧
    showNested σ (f + 1) (.num x) = some x.fmtV :=
  ⟨rfl, rfl, rfl, rfl, rfl, rfl⟩

/-- what `+` splices into a string for a number or a string is character for character what `দেখাও` prints for it -/
theorem concat_equals_print (σ : Store) (f : Nat) (v : Val) (hv : (∃ x, v = .num x) ∨ (∃ s, v = .str s)) :
    ∃ t, stringify σ (f + 1) v = some t ∧ opAdd (.str []) v = .ok (.str t) ∧
      (∀ s, opAdd (.str s) v = .ok (.str (s ++ t))) ∧
      (∀ x, v = .num x → ∀ s, opAdd v (.str s) = .ok (.str (t ++ s))) := by
  rcases hv with ⟨x, rfl⟩ | ⟨s, rfl⟩
  · exact ⟨x.fmtV, rfl, rfl, fun _ => rfl, fun y hy s => by cases hy; rfl⟩
  · exact ⟨s, rfl, rfl, fun _ => rfl, fun y hy => by cases hy⟩

/-- an array shows all its elements in order, an object all its properties (sorted by name) -/
theorem array_shows_all_in_order (σ : Store) (f : Nat) (r : Nat) (parts : List (List Char))
    (h : showList σ f (σ.arrs[r]?.getD []) = some parts) :
    showNested σ (f + 1) (.arr r) = some ('[' :: joinSp parts ++ [']']) := by
  unfold showNested; simp only [h]

theorem showList_length (σ : Store) : ∀ (f : Nat) (vs : List Val) (parts : List (List Char)),
    showList σ f vs = some parts → parts.length = vs.length
  | _ + 1, [], _, h => by cases h; rfl
  | f + 1, v :: vs, _, h => by
    rw [showList] at h
    split at h
    · cases h
    · split at h
      · cases h
      · cases h; exact congrArg (· + 1) (showList_length σ f vs _ ‹_›)

/-- an object shows every property, as `name:value`, in the sorted order of the names -/
theorem object_shows_all_sorted (σ : Store) (f : Nat) (r : Nat) (parts : List (List Char))
    (h : showProps σ f (σ.objs[r]?.getD []) (sortKeys ((σ.objs[r]?.getD []).map (·.1))) = some parts) :
    showNested σ (f + 1) (.obj r) = some ("map[".toList ++ joinSp parts ++ [']']) ∧
    parts.length = ((σ.objs[r]?.getD []).map (·.1)).length := by
  refine ⟨by unfold showNested; simp only [h], ?_⟩
  rw [showProps_eq_showList] at h
  obtain ⟨ss, hss, rfl⟩ := Option.map_eq_some_iff.mp h
  simp [showList_length σ f _ ss hss, sortKeys]

/-- the special doubles and the two zeros print as Go prints them -/
theorem special_numbers_text :
    F64.nan.fmtV = "NaN".toList ∧ (F64.inf false).fmtV = "+Inf".toList ∧ (F64.inf true).fmtV = "-Inf".toList ∧
    (F64.zero false).fmtV = "0".toList ∧ (F64.zero true).fmtV = "-0".toList :=
  ⟨rfl, rfl, rfl, rfl, rfl⟩

/-- a value that is not a cyclic structure can always be printed once enough fuel is given:
    constants, numbers, strings and callables need one unit -/
theorem atoms_printable (σ : Store) (f : Nat) (v : Val) (h : ∀ r, v ≠ .arr r ∧ v ≠ .obj r) :
    ∃ t, stringify σ (f + 1) v = some t := by
  cases v with
  | arr r => exact absurd rfl (h r).1
  | obj r => exact absurd rfl (h r).2
  | _ => exact ⟨_, rfl⟩

end Borno.Props.C15
