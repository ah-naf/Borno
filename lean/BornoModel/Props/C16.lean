import BornoModel.Props.C02
import BornoModel.Lemmas.InterchangeStmt
import BornoModel.Lemmas.InterchangeObj
/-! # C16 — a value behaves the same however it was produced

The model has exactly one constructor of `Val` per value kind (`Val.num` for every number,
`Val.str` for every string), and every consumer is a function of the `Val` alone.  That the Go
code has this shape too (one host representation per kind) is the dynamic `K:` check of every
campaign and the correspondence of the producers below. -/
namespace Borno.Props.C16

/-- literal, arithmetic, bitwise and built-in producers of a number all produce `Val.num` -/
theorem number_producers (P : Platform) (σ : Store) (x y : F64) (i j : Int)
    (hx : toInt64 (.num x) = some i) (hy : toInt64 (.num y) = some j) :
    litVal (.num x) = .num x ∧
    binop P σ .PLUS (.num x) (.num y) = .ok (.num (F64.add x y)) ∧
    binop P σ .AND (.num x) (.num y) = .ok (.num (F64.ofInt (bitAnd i j))) ∧
    binop P σ .OR (.num x) (.num y) = .ok (.num (F64.ofInt (bitOr i j))) ∧
    unop .NOT (.num x) = .ok (.num (F64.ofInt (bitNot i))) ∧
    callPure P .round [.num x] σ = .ok (.num x.round, σ) ∧
    callPure P .abs [.num x] σ = .ok (.num x.abs, σ) ∧
    (∀ r, callPure P .len [.arr r] σ = .ok (.num (F64.ofNat (σ.arrs[r]?.getD []).length), σ)) := by
  have h := (C02.bitwise_int64 P σ _ _).1 i j hx hy
  exact ⟨rfl, rfl, h.1, h.2.1, by simp [unop, hx], rfl, rfl, fun _ => rfl⟩

/-- literal, concatenation and `ইনপুট` producers of a string all produce `Val.str` -/
theorem string_producers (s t : List Char) (σ : Store) :
    litVal (.str s) = .str s ∧ opAdd (.str s) (.str t) = .ok (.str (s ++ t)) ∧
    (∀ line rest, readLine σ.input = some (line, rest) →
      (callInput [] σ).2 = .ok (.str (trimSpace line))) := by
  refine ⟨rfl, rfl, ?_⟩
  intro line rest h
  simp [callInput, inputPrompt, h]

/-- consumers depend on the value only: truthiness, equality, coercions and printing are functions of `Val` -/
theorem consumers_depend_on_value_only (σ : Store) (v w : Val) (h : v = w) (f : Nat) :
    truthy v = truthy w ∧ toNumber v = toNumber w ∧ toInt64 v = toInt64 w ∧
    stringify σ f v = stringify σ f w ∧ (∀ u, valEq σ v u = valEq σ w u) := by subst h; simp

/-- **a value behaves the same however it was produced, in every context**: two producers that, in every scope
    and store, come to the same result (the same value, the same effects) can stand in for each other in any
    operand, argument, element, subscript, callee, receiver or assigned-value position of any enclosing expression,
    nested to any depth, without changing what the whole comes to (from some step budget on) -/
theorem producers_interchangeable_in_every_context (P : Platform) (C : Ctx) (e e' : Expr) (h : EvEq P e e') :
    EvEq P (C.plug e) (C.plug e') := plug_congr P C h

/-- … and so in the statements that consume a value: print, expression statement, declaration, return, condition -/
theorem producers_interchangeable_in_statements (P : Platform) (C : Ctx) (e e' : Expr) (h : EvEq P e e') (n : Name) (l : Nat)
    (t : Stmt) (el : Option Stmt) :
    EvS P (.print (C.plug e)) (.print (C.plug e')) ∧ EvS P (.expr (C.plug e)) (.expr (C.plug e')) ∧
    EvS P (.var ⟨n, l, some (C.plug e)⟩) (.var ⟨n, l, some (C.plug e')⟩) ∧
    EvS P (.returnS l (some (C.plug e))) (.returnS l (some (C.plug e'))) ∧
    EvS P (.ifS (C.plug e) t el) (.ifS (C.plug e') t el) :=
  have hc := plug_congr P C h
  ⟨evS_print P hc, evS_expr P hc, evS_var P n l hc, evS_return P l hc, evS_if P hc (.refl P t) (.refl P el)⟩

/-- … including the one position `Ctx` leaves out: the initialiser of a property of an object literal -/
theorem producers_interchangeable_in_object_literals (P : Platform) (C D : Ctx) (pre post : List (Name × Expr)) (k : Name) (tc : Bool)
    (e e' : Expr) (h : EvEq P e e') :
    EvEq P (C.plug (.objectLit (pre ++ (k, D.plug e) :: post) tc)) (C.plug (.objectLit (pre ++ (k, D.plug e') :: post) tc)) :=
  plug_congr P C (cong_objectLit P tc (RelP.hole P pre post k (plug_congr P D h)))

/-- two concrete producers of one string: the literal, and the concatenation of its halves -/
theorem literal_and_concatenation_agree (P : Platform) (s t : List Char) (l1 l2 l3 l4 : Nat) :
    EvEq P (.binary (.literal (.str s) l1) .PLUS l2 (.literal (.str t) l3)) (.literal (.str (s ++ t)) l4) := by
  intro env repl σ
  refine ev2_of_succ (ev2_of_succ ⟨0, fun F _ => ?_⟩)
  cases hs : σ.hadError with
  | true => simp only [evalE_err P _ _ env repl hs]
  | false => simp only [evalE, guardErr_ok hs, ER.seq_ok]; rfl

/-- hence, for instance, inside any context -/
example (P : Platform) (C : Ctx) (s t : List Char) :
    EvEq P (C.plug (.binary (.literal (.str s) 1) .PLUS 1 (.literal (.str t) 1))) (C.plug (.literal (.str (s ++ t)) 1)) :=
  plug_congr P C (literal_and_concatenation_agree P s t 1 1 1 1)

end Borno.Props.C16
