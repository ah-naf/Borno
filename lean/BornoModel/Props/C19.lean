import BornoModel.Lemmas.CliEqs
import BornoModel.Lemmas.EvalInv
/-! # C19 — exit status and output streams classify every run -/
namespace Borno.Props.C19
open Cli

/-- the three script outcomes are exhaustive and mutually exclusive, and each is decided by the two flags -/
theorem status_classification (r : RunOut) :
    (fileStatus r = 0 ↔ (r.hadError = false ∧ r.hadRuntimeError = false)) ∧
    (fileStatus r = 65 ↔ r.hadError = true) ∧
    (fileStatus r = 70 ↔ (r.hadError = false ∧ r.hadRuntimeError = true)) := by
  unfold fileStatus Expect.exitSyntax Expect.exitRuntime
  cases r.hadError <;> cases r.hadRuntimeError <;> simp

/-- a text with a lexical or syntax diagnostic is not interpreted: no stdout, no stdin consumed,
    no built-in invoked, status 65 -/
theorem rejected_runs_nothing (P : Platform) (fuel : Nat) (src input : List Char)
    (h : (frontEnd P.lm src).diags ≠ []) (hab : (frontEnd P.lm src).abnormal = none) :
    let r := run P fuel src false input
    r.out = [] ∧ r.inputRest = input ∧ r.nativeCalls = 0 ∧ r.runtimeDiags = [] ∧ fileStatus r = 65 := by
  rw [run_rejected h, hab]
  exact ⟨rfl, rfl, rfl, rfl, rfl⟩

/-- a run writes diagnostics only to stderr: stdout of an interpreted program is what the store collected -/
theorem usage_and_extension (P : Platform) (fuel : Nat) (args : List (List Char)) (file : Option (List Char)) (stdin : List Char) :
    (2 ≤ args.length → (main P fuel args file stdin).status = 64 ∧ (main P fuel args file stdin).err = [] ∧
        (main P fuel args file stdin).out = usageText) ∧
    (∀ p, args = [p] → ext p ≠ ['.', 'b', 'n'] →
        (main P fuel args file stdin).status = 64 ∧ (main P fuel args file stdin).out = badExtText) ∧
    (∀ p, args = [p] → ext p = ['.', 'b', 'n'] → file = none →
        (main P fuel args file stdin).status = 1 ∧ (main P fuel args file stdin).out = []) := by
  refine ⟨?_, ?_, ?_⟩
  · intro h
    match args, h with
    | _ :: _ :: _, _ => simp [main, mode, Expect.exitUsage]
  · intro p hp he
    subst hp
    simp [main, mode, he, Expect.exitUsage]
  · intro p hp he hf
    subst hp; subst hf
    simp [main, mode, he, Expect.exitRead]

/-- in every store a program run reaches, stdout is exactly the texts of the print events (prints,
    echoes, prompts) in order, the diagnostics are exactly the reported ones in order — neither
    leaks into the other —, the error flag is set iff a diagnostic was reported, and the call counter
    counts the built-in entries -/
theorem streams_are_trace_projections (P : Platform) (fuel : Nat) (prog : List Stmt) (repl : Bool) (input : List Char) (σ : Store)
    (h : interpret P fuel prog repl input = .ok () σ) : LogOk σ :=
  (interpret_ext P h).log_ok ⟨rfl, rfl, rfl, rfl⟩

theorem renderDiag_ne_nil (d : Diag) : renderDiag d ≠ [] := by
  cases d with
  | «static» line wher msg => unfold renderDiag; exact List.append_ne_nil_of_right_ne_nil _ (by simp)
  | runtime msg line => unfold renderDiag; exact List.append_ne_nil_of_right_ne_nil _ (by decide)

theorem stderr_empty_iff (ds : List Diag) : ds.flatMap renderDiag = [] ↔ ds = [] := by
  cases ds with
  | nil => simp
  | cons d ds =>
    simp only [List.flatMap_cons, List.append_eq_nil_iff, reduceCtorEq, iff_false, not_and]
    intro h; exact absurd h (renderDiag_ne_nil d)

/-- **status 0 iff nothing on stderr** (for every run that ends; `abnormal` marks the model's fuel
    bound and the two known crash classes), 65 iff a lexical / syntax diagnostic, 70 iff only
    runtime diagnostics -/
theorem status0_iff_clean (P : Platform) (fuel : Nat) (src input : List Char)
    (hab : (run P fuel src false input).abnormal = none) :
    let r := run P fuel src false input
    (fileStatus r = 0 ↔ r.stderr = []) ∧
    (fileStatus r = 65 ↔ r.staticDiags ≠ []) ∧
    (fileStatus r = 70 ↔ (r.staticDiags = [] ∧ r.runtimeDiags ≠ [])) := by
  rcases frontEnd_cases P.lm src with ⟨a, ha⟩ | hd | ⟨prog, hacc⟩
  · rw [run_abnormal ha] at hab
    cases hab
  · rw [run_rejected hd]
    simp only [RunOut.stderr, stderr_empty_iff]
    simp [fileStatus, Expect.exitSyntax, hd]
  · rw [run_accepted hacc] at hab ⊢
    cases hi : interpret P fuel prog false input with
    | abn a =>
      rw [hi] at hab
      cases hab
    | ok u σ =>
      obtain ⟨_, _, hflag, _⟩ := streams_are_trace_projections P fuel prog false input σ hi
      simp only [fileStatus, RunOut.stderr, List.nil_append, Bool.false_eq_true, if_false, Expect.exitRuntime, Expect.exitSyntax,
        stderr_empty_iff]
      cases hds : σ.diags with
      | nil => simp [hflag, hds]
      | cons d ds => simp [hflag, hds]

/-- `ইনপুট` consumes exactly one line of stdin — up to and including its newline, or the
    unterminated rest — and returns it trimmed; the optional prompt goes to stdout first; at end of
    input it is an error and nothing is consumed -/
theorem input_consumes_one_line (σ : Store) (l rest : List Char) :
    (readLine σ.input = some (l, rest) →
      callInput [] σ = (σ.consume rest, .ok (.str (trimSpace l))) ∧
      ∀ p, callInput [.str p] σ = ((σ.print p).consume rest, .ok (.str (trimSpace l)))) ∧
    (readLine σ.input = none → ∃ m, callInput [] σ = (σ, .error m)) := by
  constructor
  · intro h
    constructor
    · simp [callInput, inputPrompt, h]
    · intro p
      have : (σ.print p).input = σ.input := rfl
      simp [callInput, inputPrompt, this, h]
  · intro h
    exact ⟨"failed to read input: EOF".toList, by simp [callInput, inputPrompt, h]⟩

/-- a line is the text up to the first newline; what follows it is left for the next read -/
theorem readLine_splits (inp : List Char) (l rest : List Char) (h : readLine inp = some (l, rest)) :
    l ++ rest = inp ∧ (∀ c ∈ l.dropLast, c ≠ '\n') := by
  unfold readLine at h
  cases inp with
  | nil => cases h
  | cons c cs =>
    simp only at h
    have hsplit := List.takeWhile_append_dropWhile (p := (· ≠ '\n')) (l := c :: cs)
    have hall : ∀ x ∈ (c :: cs).takeWhile (· ≠ '\n'), x ≠ '\n' := by
      intro x hx
      have := ListAux.takeWhile_forall (· ≠ '\n') (c :: cs) x hx
      simpa using this
    split at h
    · rename_i hr
      simp only [Option.some.injEq, Prod.mk.injEq] at h
      obtain ⟨rfl, rfl⟩ := h
      rw [hr, List.append_nil] at hsplit
      exact ⟨by rw [List.append_nil]; exact hsplit, fun x hx => hall x (List.dropLast_subset _ hx)⟩
    · rename_i q rest' hr
      simp only [Option.some.injEq, Prod.mk.injEq] at h
      obtain ⟨rfl, rfl⟩ := h
      have hq : q = '\n' := by
        have := ListAux.dropWhile_head (· ≠ '\n') (c :: cs) q rest' hr
        simpa using this
      subst hq
      refine ⟨by rw [List.append_assoc, List.singleton_append, ← hr]; exact hsplit, fun x hx => ?_⟩
      rw [List.dropLast_concat] at hx
      exact hall x hx

/-- the extension is the suffix from the last dot of the last path element -/
example : ext "a.bn".toList = ".bn".toList ∧ ext "a.bn.txt".toList = ".txt".toList ∧ ext "d.bn/x".toList = [] ∧
    ext ".bn".toList = ".bn".toList ∧ ext "a.BN".toList = ".BN".toList := by decide +kernel

/-- non-vacuity: a concrete rejected text -/
example : (frontEnd (fun _ => false) "@".toList).diags ≠ [] ∧ (frontEnd (fun _ => false) "@".toList).abnormal = none := by decide +kernel

end Borno.Props.C19
