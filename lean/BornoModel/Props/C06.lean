import BornoModel.Lemmas.EvalInv
/-! # C06 — a runtime error stops the program: true cause, right line, nothing afterwards -/
namespace Borno.Props.C06

section
variable (P : Platform)

/-- once the error flag is set, evaluating any expression does nothing: the store — stdout, stdin,
    built-in call count, diagnostics — is returned unchanged, at once (no loop iterates, no
    function is entered); the only other outcome is the model's own fuel bound -/
theorem inert_expr (f : Nat) (e : Expr) (env : Nat) (repl : Bool) (σ : Store) (h : σ.hadError = true) :
    evalE P f e env repl σ = .ok (.nil, .none) σ ∨ evalE P f e env repl σ = .abn .fuel := by
  cases f with
  | zero => exact .inr (evalE_zero P e env repl σ)
  | succ f => exact .inl (evalE_err P f e env repl h)

theorem inert_stmt (f : Nat) (s : Stmt) (env : Nat) (repl : Bool) (σ : Store) (h : σ.hadError = true) :
    evalS P f s env repl σ = .ok (.nil, .none) σ ∨ evalS P f s env repl σ = .abn .fuel := by
  cases f with
  | zero => exact .inr (evalS_zero P s env repl σ)
  | succ f => exact .inl (evalS_err P f s env repl h)

/-- with one unit of fuel the inert evaluation finishes: bounded time after an error -/
theorem inert_terminates (f : Nat) (e : Expr) (s : Stmt) (env : Nat) (repl : Bool) (σ : Store) (h : σ.hadError = true) :
    evalE P (f + 1) e env repl σ = .ok (.nil, .none) σ ∧ evalS P (f + 1) s env repl σ = .ok (.nil, .none) σ :=
  ⟨evalE_err P f e env repl h, evalS_err P f s env repl h⟩

/-- a loop whose condition is evaluated after the error ends at once -/
theorem loops_stop_after_error (f : Nat) (c : Expr) (inc : Option Expr) (b : Stmt) (env : Nat) (repl : Bool) (σ : Store)
    (h : σ.hadError = true) :
    whileLoop P (f + 2) c b env repl σ = .ok (.nil, .none) σ ∧ forLoop P (f + 2) c inc b env repl σ = .ok (.nil, .none) σ := by
  have hc := (inert_terminates P f c b env repl σ h).1
  constructor
  · rw [whileLoop, hc, ER.seq_ok]; rfl
  · rw [forLoop, hc, ER.seq_ok]; rfl

/-- the rest of a block, a function body and the program are skipped after the error -/
theorem block_stops_after_error (f : Nat) (s : Stmt) (ss : List Stmt) (env : Nat) (repl : Bool) (σ σ1 : Store) (sig : Signal)
    (hs : evalS P f s env repl σ = .ok (.nil, sig) σ1) (h1 : σ1.hadError = true) (hsig : sig = .none) :
    evalBlock P (f + 1) (s :: ss) env repl σ = .ok (.nil, .none) σ1 := by
  subst hsig
  rw [evalBlock, hs, ER.seq_ok, guardErr_err h1]; rfl

theorem program_stops_after_error (f : Nat) (s : Stmt) (ss : List Stmt) (env : Nat) (repl : Bool) (σ σ1 : Store) (v : Val)
    (hs : evalS P f s env repl σ = .ok (v, .none) σ1) (h1 : σ1.hadError = true) :
    interpretLoop P (f + 1) (s :: ss) env repl σ = .ok () σ1 := by
  rw [interpretLoop, hs, Res.bind_ok]; simp only [h1, if_true]

/-- no built-in is invoked once an argument (or anything before the call) has failed -/
theorem no_invocation_after_failed_argument (f : Nat) (c : Expr) (args : List Expr) (line env : Nat) (repl : Bool)
    (σ σ1 σ2 : Store) (n : Expect.Native) (vs : List Val) (h0 : σ.hadError = false)
    (hc : evalE P f c env repl σ = .ok (.native n, .none) σ1)
    (hk : Expect.arity n = -1 ∨ (args.length : Int) = Expect.arity n)
    (ha : evalList P f args env repl σ1 = .ok (vs, .none) σ2) (h2 : σ2.hadError = true) :
    evalE P (f + 1) (.call c line args) env repl σ = .ok (.nil, .none) σ2 := by
  rw [evalE, guardErr_ok h0, hc, ER.seq_ok]
  have : ¬ (Expect.arity n ≠ -1 ∧ (args.length : Int) ≠ Expect.arity n) := by
    rcases hk with hk | hk <;> simp [hk]
  simp [arityOf, this, ha, h2, nilOk]

/-- printing is skipped when its operand failed -/
theorem no_print_after_failed_operand (f : Nat) (e : Expr) (env : Nat) (repl : Bool) (σ σ1 : Store) (v : Val)
    (h0 : σ.hadError = false) (he : evalE P f e env repl σ = .ok (v, .none) σ1) (h1 : σ1.hadError = true) :
    evalS P (f + 1) (.print e) env repl σ = .ok (.nil, .none) σ1 := by
  rw [evalS, guardErr_ok h0, he, Res.bind_ok, if_neg fun h => h rfl, guardErr_err h1]; rfl

end

/-- reporting an error appends exactly one diagnostic (message, then the line) and sets the flag;
    stdout and stdin are untouched -/
theorem rte_effect (σ : Store) (msg : List Char) (line : Nat) :
    (σ.rte msg line).diags = σ.diags ++ [.runtime msg line] ∧ (σ.rte msg line).hadError = true ∧
    (σ.rte msg line).out = σ.out ∧ (σ.rte msg line).input = σ.input ∧ (σ.rte msg line).nativeCalls = σ.nativeCalls := by
  simp [Store.rte]

/-- **nothing after the first error**, for whole programs: in the sequence of observable events of any
    run (writes to stdout, diagnostics, reads of stdin, entries into built-ins), every event after the
    first diagnostic is itself a diagnostic — no output, no prompt, no read, no built-in — and the error
    flag is set exactly when a diagnostic was written -/
theorem nothing_after_first_error (P : Platform) (fuel : Nat) (prog : List Stmt) (repl : Bool) (input : List Char) (σ' : Store)
    (h : interpret P fuel prog repl input = .ok () σ') :
    quiet false σ'.trace = true ∧ σ'.hadError = σ'.trace.any Ev.isDiag := by
  obtain ⟨new, ht, hq, hf⟩ := (interpret_ext P h).trace_ext
  simp [initStore] at ht hq hf
  rw [ht]; exact ⟨hq, hf⟩

/-- the same from any intermediate point of any evaluation: if the flag is set when a piece of
    evaluation starts, then when it returns stdout, the unread stdin and the number of built-in calls
    are what they were — whatever the piece is (loop, call, function body, …) -/
theorem frozen_after_error (P : Platform) (f : Nat) (e : Expr) (s : Stmt) (env : Nat) (repl : Bool) (σ σ' : Store) (r : Val × Signal)
    (herr : σ.hadError = true) :
    (evalE P f e env repl σ = .ok r σ' → σ'.out = σ.out ∧ σ'.input = σ.input ∧ σ'.nativeCalls = σ.nativeCalls) ∧
    (evalS P f s env repl σ = .ok r σ' → σ'.out = σ.out ∧ σ'.input = σ.input ∧ σ'.nativeCalls = σ.nativeCalls) :=
  ⟨fun h => (evalE_ext P h).frozen herr, fun h => (evalS_ext P h).frozen herr⟩

/-- the first diagnostic of a run is never displaced: later evaluation only appends diagnostics -/
theorem first_diagnostic_stays (P : Platform) (f : Nat) (s : Stmt) (env : Nat) (repl : Bool) (σ σ' : Store) (r : Val × Signal) (d : Diag)
    (h : evalS P f s env repl σ = .ok r σ') (hd : σ.diags.head? = some d) : σ'.diags.head? = some d := by
  obtain ⟨ds, hds⟩ := (evalS_ext P h).diags_ext
  rw [hds, List.head?_append, hd]; rfl

end Borno.Props.C06
