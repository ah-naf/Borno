import BornoModel.Lemmas.EvalInv
/-! # C04 — calls bind arguments by position, return exactly; closures own captured state -/
namespace Borno.Props.C04

section
variable (P : Platform)

/-- a call runs the body in a *fresh* activation frame (index = number of frames allocated so far) whose
    parent is the closure's captured scope — not the caller's —, holding first the function's own
    name, then the parameters bound to the arguments in order -/
theorem call_binds_positionally (f : Nat) (id : Nat) (args : List Val) (σ : Store) (cl : Closure)
    (hcl : σ.funs[id]? = some cl) (hn : cl.params.length ≤ args.length) :
    callFn P (f + 1) id args σ =
      (runBody P f cl.body σ.envs.length
        ((cl.params.zip args).foldl (fun s (p : Name × Val) => s.define σ.envs.length p.1 p.2)
          ((σ.newEnv (some cl.env)).1.define σ.envs.length cl.name (.fn id)))).bind fun v σ4 => .ok (v, .none) σ4 :=
  callFn_succ P f hcl hn

/-- the activation frame is new: no earlier frame is replaced by its allocation -/
theorem activation_fresh (σ : Store) (parent : Option Nat) :
    (σ.newEnv parent).2 = σ.envs.length ∧
    (∀ i, i < σ.envs.length → (σ.newEnv parent).1.envs[i]? = σ.envs[i]?) ∧
    (σ.newEnv parent).1.envs[σ.envs.length]? = some ⟨[], parent⟩ := by
  refine ⟨rfl, ?_, ?_⟩
  · intro i hi; simp [Store.newEnv, List.getElem?_append_left hi]
  · simp [Store.newEnv]

/-- the value of a call is the value of the first `ফেরত` executed, and nothing after it in the body runs;
    a body that ends without one yields nil -/
theorem return_ends_body (f : Nat) (s : Stmt) (ss : List Stmt) (env : Nat) (σ σ1 : Store) (x : Val) (l : Nat) (w : Val)
    (hs : evalS P f s env false σ = .ok (w, .ret l x) σ1) :
    runBody P (f + 1) (s :: ss) env σ = .ok x σ1 := by
  rw [runBody, hs]; rfl

theorem no_return_nil (f : Nat) (env : Nat) (σ : Store) : runBody P (f + 1) [] env σ = .ok .nil σ := by
  rw [runBody]

theorem body_continues_without_signal (f : Nat) (s : Stmt) (ss : List Stmt) (env : Nat) (σ σ1 : Store) (w : Val)
    (hs : evalS P f s env false σ = .ok (w, .none) σ1) :
    runBody P (f + 1) (s :: ss) env σ = runBody P f ss env σ1 := by
  rw [runBody, hs]; rfl

/-- `ফেরত` raises a return signal carrying the value; blocks, branches and both loops hand it upward unchanged -/
theorem return_signal (f : Nat) (e : Expr) (line env : Nat) (repl : Bool) (σ σ1 : Store) (x : Val)
    (h0 : σ.hadError = false) (he : evalE P f e env repl σ = .ok (x, .none) σ1) :
    evalS P (f + 1) (.returnS line (some e)) env repl σ = .ok (.nil, .ret line x) σ1 ∧
    evalS P (f + 1) (.returnS line none) env repl σ = .ok (.nil, .ret line .nil) σ := by
  constructor
  · rw [evalS, guardErr_ok h0, he, ER.seq_ok]
  · rw [evalS, guardErr_ok h0]

theorem return_through_block (f : Nat) (s : Stmt) (ss : List Stmt) (env : Nat) (repl : Bool) (σ σ1 : Store) (w x : Val) (l : Nat)
    (hs : evalS P f s env repl σ = .ok (w, .ret l x) σ1) :
    evalBlock P (f + 1) (s :: ss) env repl σ = .ok (.nil, .ret l x) σ1 := by
  rw [evalBlock, hs, ER.seq_sig (by simp)]

theorem return_through_while (f : Nat) (c : Expr) (b : Stmt) (env : Nat) (repl : Bool) (σ σ1 σ2 : Store) (cv w x : Val) (l : Nat)
    (hc : evalE P f c env repl σ = .ok (cv, .none) σ1) (ht : truthy cv = true)
    (hb : evalS P f b env repl σ1 = .ok (w, .ret l x) σ2) :
    whileLoop P (f + 1) c b env repl σ = .ok (.nil, .ret l x) σ2 := by
  rw [whileLoop, hc, ER.seq_ok, ht, hb]; rfl

theorem return_through_for (f : Nat) (c : Expr) (inc : Option Expr) (b : Stmt) (env : Nat) (repl : Bool) (σ σ1 σ2 : Store) (cv w x : Val) (l : Nat)
    (hc : evalE P f c env repl σ = .ok (cv, .none) σ1) (ht : truthy cv = true)
    (hb : evalS P f b env repl σ1 = .ok (w, .ret l x) σ2) :
    forLoop P (f + 1) c inc b env repl σ = .ok (.nil, .ret l x) σ2 := by
  rw [forLoop, hc, ER.seq_ok, ht, hb]; rfl

/-- calling something that is not a function, or a function with the wrong number of arguments, is a
    runtime error at the call's closing parenthesis; the callee is not entered -/
theorem call_errors (f : Nat) (c : Expr) (args : List Expr) (line env : Nat) (repl : Bool) (σ σ1 : Store) (cv : Val)
    (h0 : σ.hadError = false) (hc : evalE P f c env repl σ = .ok (cv, .none) σ1) :
    ((∀ id, cv ≠ .fn id) → (∀ n, cv ≠ .native n) →
      evalE P (f + 1) (.call c line args) env repl σ = .ok (.nil, .none) (σ1.rte "Can only call functions.".toList line)) ∧
    (∀ id cl, cv = .fn id → σ1.funs[id]? = some cl → args.length ≠ cl.params.length →
      ∃ m, evalE P (f + 1) (.call c line args) env repl σ = .ok (.nil, .none) (σ1.rte m line)) := by
  constructor
  · intro h1 h2
    rw [evalE, guardErr_ok h0, hc, ER.seq_ok]
    cases cv <;> simp [nilOk, arityOf] at h1 h2 ⊢
  · intro id cl hcv hcl hne
    subst hcv
    refine ⟨arityMsg cl.params.length args.length, ?_⟩
    rw [evalE, guardErr_ok h0, hc, ER.seq_ok]
    have h1 : (args.length : Int) ≠ cl.params.length := by omega
    have h2 : (cl.params.length : Int) ≠ -1 := by omega
    simp [arityOf, hcl, h1, h2, nilOk]

/-- a function declaration captures (a fresh child of) the scope it is executed in: each execution of
    the declaration allocates its own closure frame, so two closures made by two executions are separate -/
theorem declaration_captures_current_scope (f : Nat) (name : Name) (ps : List Name) (body : List Stmt) (env : Nat) (repl : Bool) (σ : Store)
    (h0 : σ.hadError = false) (henv : env < σ.envs.length) :
    ∃ σ', evalS P (f + 1) (.funS name ps body) env repl σ = .ok (.nil, .none) σ' ∧
      σ'.funs = σ.funs ++ [⟨name, ps, body, σ.envs.length⟩] ∧
      σ'.envs.length = σ.envs.length + 1 ∧
      σ'.envs[σ.envs.length]? = some ⟨[], some env⟩ := by
  refine ⟨_, by rw [evalS, guardErr_ok h0]; rfl, ?_⟩
  simp only [Store.define, Store.newEnv, Store.newFun]
  split
  · exact ⟨rfl, by simp, by simp [Nat.ne_of_lt henv]⟩
  · exact ⟨rfl, by simp, by simp⟩

/-- **a function value keeps what it captured**: across any evaluation a closure keeps its declaration
    and the scope it captured, and that scope keeps its place in the chain and all its names — the
    captured variables stay alive after the declaring scope has finished -/
theorem closure_keeps_captured_scope (f : Nat) (s : Stmt) (env : Nat) (repl : Bool) (σ σ' : Store) (r : Val × Signal)
    (h : evalS P f s env repl σ = .ok r σ') (id : Nat) (cl : Closure) (hcl : σ.funs[id]? = some cl)
    (fr : Frame) (hfr : σ.envs[cl.env]? = some fr) :
    σ'.funs[id]? = some cl ∧ ∃ fr', σ'.envs[cl.env]? = some fr' ∧ fr'.parent = fr.parent ∧
      ∀ n, (fr.vars.lookup n).isSome = true → (fr'.vars.lookup n).isSome = true :=
  ⟨(evalS_ext P h).funs_keep id cl hcl, (evalS_ext P h).env_keep _ fr hfr⟩

end
end Borno.Props.C04
