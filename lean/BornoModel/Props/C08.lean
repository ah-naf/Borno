import BornoModel.Lemmas.CliEqs
import BornoModel.Lemmas.ParseSoundStmt
import BornoModel.Lemmas.ParseCompleteStmt
import BornoModel.Lemmas.ParseWf
import BornoModel.Props.C09
/-! # C08 — the front end is total, accepts exactly the documented language, runs nothing else -/
namespace Borno.Props.C08
open Parser Cli Grammar

/-- totality: lexing and parsing are total functions of the text (every Lean definition terminates);
    the front end always classifies: either no diagnostic, or at least one -/
theorem front_end_classifies (lm : Char → Bool) (src : List Char) :
    (frontEnd lm src).diags = [] ∨ (frontEnd lm src).diags ≠ [] := by
  cases (frontEnd lm src).diags <;> simp

/-- no part of a rejected text is executed — not even the statements before the error -/
theorem rejected_runs_nothing (P : Platform) (fuel : Nat) (src input : List Char) (repl : Bool)
    (h : (frontEnd P.lm src).diags ≠ []) :
    (run P fuel src repl input).out = [] ∧ (run P fuel src repl input).nativeCalls = 0 ∧
    (run P fuel src repl input).inputRest = input ∧ (run P fuel src repl input).runtimeDiags = [] := by
  rw [run_rejected h]
  exact ⟨rfl, rfl, rfl, rfl⟩

/-- and it exits with status 65 -/
theorem rejected_status_65 (P : Platform) (fuel : Nat) (src input : List Char)
    (h : (frontEnd P.lm src).diags ≠ []) : fileStatus (run P fuel src false input) = 65 := by
  rw [run_rejected h]
  rfl

/-- the lenient `consume` (after a print / expression statement, at the end of a block) goes on
    parsing but still flags the error -/
theorem lenient_consume_still_flags (tt : TT) (msg : String) (t : Token) (r : List Token) (h : t.tt ≠ tt) :
    lenient tt msg (t :: r) = .ok () (t :: r) [errAt t msg.toList] := lenient_miss h msg r

theorem lenient_consume_ok (tt : TT) (msg : String) (t : Token) (r : List Token) (h : t.tt = tt) :
    lenient tt msg (t :: r) = .ok () r [] := lenient_hit h msg r

/-- built-in names are barred as declared variable and function names -/
theorem reserved_variable_rejected (f il : Nat) (t : Token) (r : List Token) (ht : t.tt = .IDENTIFIER)
    (hr : isReserved t.lexeme = true) :
    varDecls (f + 1) il (t :: r) = .err (errAt t (reservedMsg t.lexeme "variable")) := varDecls_reserved ht hr

theorem reserved_function_rejected (f : Nat) (t : Token) (r : List Token) (ht : t.tt = .IDENTIFIER)
    (hr : isReserved t.lexeme = true) :
    function (f + 1) (t :: r) = .err [errAt t (reservedMsg t.lexeme "function")] := function_reserved ht hr

/-- at most 255 parameters: the 256th is diagnosed -/
theorem too_many_parameters (f n : Nat) (t : Token) (r : List Token) (hn : n ≥ Expect.maxParams) :
    params (f + 1) n (t :: r) = .err (errAt t "Can't have more than 255 parameters.".toList) := params_max hn

/-- `{` at the start of a statement opens a block, never an object literal -/
theorem brace_opens_block (f : Nat) (t : Token) (r : List Token) (ht : t.tt = .LEFT_BRACE) :
    statement (f + 1) (t :: r) = (block f r).bind fun ss r1 => .ok (.block ss) r1 [] := statement_block ht

/-- a diagnostic of the parser names the line of the token it stopped at -/
theorem diagnostic_line_is_token_line (t : Token) (msg : List Char) : (errAt t msg).line = t.line := rfl

/-- **accepted ⇒ derivable**: if the parser accepts a token list without any diagnostic, the tokens up to
    the end-of-input token are exactly what the published grammar — read as the renderer `rStmts` of
    statements, declarations, the eleven-level ladder, prefix operators, suffix chains, literals and
    groupings — writes for the tree that was returned.  No token is skipped, invented or reordered. -/
theorem accepted_is_rendering (f : Nat) (ts : List Token) (p : List Stmt) (r : List Token)
    (hw : ∀ t ∈ ts, TokWf t) (h : program f ts = .ok p r []) :
    ∃ pre, ts = pre ++ r ∧ pre.map rtok = rStmts p ∧ ∃ e r', r = e :: r' ∧ e.tt = .EOF :=
  program_sound f ts p r hw h

/-- the same for a single expression: what `expression` consumes is the rendering of what it returns -/
theorem expression_is_rendering (f : Nat) (ts : List Token) (e : Expr) (r : List Token)
    (hw : ∀ t ∈ ts, TokWf t) (h : assignment f ts = .ok e r) :
    ∃ pre, ts = pre ++ r ∧ pre.map rtok = rExpr e :=
  (soundE f).asg ts e r hw h

/-- **end to end**: whenever a text is accepted — the scanner and the parser report nothing — its token
    sequence is the grammar's rendering of the returned tree followed by the single end-of-input token -/
theorem accepted_text_is_rendering (lm : Char → Bool) (hlm : lm '\n' = false) (src : List Char)
    (toks : List Token) (p : List Stmt) (r : List Token) (f : Nat)
    (hs : Lexer.scan lm src = some (toks, [])) (hp : program f toks = .ok p r []) :
    ∃ pre e, toks = pre ++ [e] ∧ e.tt = .EOF ∧ pre.map rtok = rStmts p := by
  -- `C09.LitOk` and `Grammar.TokWf` are the same proposition, written once for the scanner and once for the parser
  have hwf : ∀ t ∈ toks, TokWf t := fun t ht => C09.scan_tokens_litOk lm hlm src toks [] hs t ht
  obtain ⟨pre, hsplit, hren, e, r', hr, he⟩ := program_sound f toks p r hwf hp
  obtain ⟨body, hbody, hne⟩ := C09.single_eof_last lm hlm src toks [] hs
  subst hr
  -- a token after `e` would put `e`, an end-of-input token, among the tokens before the last
  have key : r' = [] := by
    cases r' with
    | nil => rfl
    | cons x xs =>
      have hm : e ∈ toks.dropLast := by
        rw [hsplit]
        simp [List.dropLast_append_of_ne_nil]
      rw [hbody, List.dropLast_concat] at hm
      exact absurd he (hne e hm)
  subst key
  exact ⟨pre, e, hsplit, he, hren⟩

/-- the converse of `accepted_is_rendering` — **every text of the documented grammar is accepted**:
    for every well-formed program tree (`wfSs`: expressions fit the ladder, `ধরি` lists have their
    shape, declared names are not reserved, at most 255 parameters, arms and loop bodies are
    statements, `else` on the nearest `if`, expression statements do not begin with `{`), `Parse`
    applied to its rendering returns that tree, with no diagnostic, for all large enough fuel -/
theorem every_wellformed_program_is_accepted (p : List Stmt) (hw : wfSs p = true) :
    ∃ f0, ∀ f, f0 ≤ f → program f (toksSs p ++ [tk (kw .EOF)]) = .ok (eraseSs p) [tk (kw .EOF)] [] :=
  program_complete p hw

/-- and the tree is determined by the text: two well-formed programs with the same rendering are
    the same program (up to line fields) -/
theorem program_tree_unique (p q : List Stmt) (hp : wfSs p = true) (hq : wfSs q = true) (h : rStmts p = rStmts q) :
    eraseSs p = eraseSs q := program_rendering_injective p q hp hq h

/-- the remaining link: every program `Parse` accepts (no diagnostic) is well-formed — so the
    accepted token lists are *exactly* the renderings of well-formed programs:
    accepted ⇒ `accepted_is_rendering` + this; well-formed ⇒ `every_wellformed_program_is_accepted` -/
theorem accepted_program_is_wellformed (f : Nat) (ts : List Token) (p : List Stmt) (r : List Token)
    (hw : ∀ t ∈ ts, TokWf t) (h : program f ts = .ok p r []) : wfSs p = true :=
  program_wf f ts p r hw h

/-- hence the returned tree is *the* tree of the grammar for the accepted tokens: any well-formed
    program with the same rendering is the returned one (up to line fields) -/
theorem accepted_program_is_the_unique_tree (f : Nat) (ts : List Token) (p : List Stmt) (r : List Token)
    (hw : ∀ t ∈ ts, TokWf t) (h : program f ts = .ok p r []) (q : List Stmt) (hq : wfSs q = true) (hr : rStmts q = rStmts p) :
    eraseSs q = eraseSs p :=
  program_rendering_injective q p hq (program_wf f ts p r hw h) hr

/-- non-vacuity: a program with a function, a `ধরি` list, a `ফর` loop with all three clauses, an
    `if`/`else` chain, a block and a `return` is well-formed; the dangling-else tree that puts the
    `else` on the outer `if` is not -/
example :
    let n (k : Nat) : Expr := .literal .nil k
    let x : Expr := .ident ['x'] 1
    wfSs [.funS ['f'] [['a'], ['b']] [.varList [⟨['u'], 1, some (n 1)⟩, ⟨['v'], 1, none⟩],
            .forS (some (.var ⟨['i'], 1, some (n 0)⟩)) (some x) (some (.assign ['i'] 1 (n 2) 1))
              (.block [.ifS x (.print x) (some (.ifS x (.breakS 1) (some (.continueS 1))))]),
            .returnS 1 (some x)],
          .expr (.call (.ident ['f'] 1) 1 [n 1, n 2])] = true ∧
    wfSs [.ifS x (.ifS x (.print x) none) (some (.print x))] = false ∧
    wfSs [.ifS x (.ifS x (.print x) (some (.print x))) none] = true := by decide +kernel

/-- totality of the parser half: on the token list of any text `Parse` never indexes past the end
    (no panic outcome, whatever the fuel), and when it gives up it has reported a diagnostic -/
theorem parsing_never_panics (lm : Char → Bool) (hlm : lm '\n' = false) (src : List Char) (toks : List Token) (ds : List Diag)
    (hs : Lexer.scan lm src = some (toks, ds)) (f : Nat) :
    program f toks ≠ .abn .panic ∧ ∀ pd, program f toks = .err pd → pd ≠ [] := by
  obtain ⟨body, rfl, _⟩ := C09.single_eof_last lm hlm src toks ds hs
  exact ⟨parse_no_panic f _ ⟨_, List.mem_append_right _ List.mem_cons_self, rfl⟩, program_err_nonempty f _⟩

/-- totality of the lexer half of the front end: every text is tokenised (see C09.scan_total) -/
theorem lexing_total (lm : Char → Bool) (hlm : lm '\n' = false) (src : List Char) :
    ∃ toks ds, Lexer.scan lm src = some (toks, ds) := C09.scan_total lm hlm src

/-- non-vacuity: a text with a lenient error is still rejected -/
example : (frontEnd (fun c => c.isAlpha) "a b;".toList).diags ≠ [] := by decide +kernel

end Borno.Props.C08
