import BornoModel.Lemmas.CliEqs
import BornoModel.Lemmas.FuelMono
import BornoModel.Lemmas.Show
import BornoModel.Lemmas.ListAux
/-! # C13 — execution is deterministic

The model is a function of (platform, source, stdin): there is no other input — no clock unless
`ক্লক` is called, no address, no hash seed.  The one place where the Go runtime randomises
(iteration over a map) is modelled by an arbitrary permutation of the key list; the theorems
below show the listing does not depend on it. -/
namespace Borno.Props.C13

/-- `strLt` is core's `<` on `List Char` -/
theorem strLt_iff_lt : ∀ a b : List Char, strLt a b = true ↔ a < b
  | [], [] => by simp [strLt]
  | [], _ :: _ => by simp [strLt]
  | _ :: _, [] => by simp [strLt]
  | a :: as, b :: bs => by
    have hlt : a < b ↔ a.toNat < b.toNat := Iff.rfl
    rw [strLt, List.cons_lt_cons_iff, hlt, ← Char.toNat_inj, ← strLt_iff_lt as bs]
    rcases Nat.lt_trichotomy a.toNat b.toNat with h | h | h
    · simp [h]
    · simp [h]
    · simp [h, Nat.lt_asymm h, Nat.ne_of_gt h]

theorem strLt_eq_false_iff (a b : List Char) : strLt a b = false ↔ b ≤ a := by
  rw [← Bool.not_eq_true, strLt_iff_lt]; exact List.not_lt

theorem strLe_iff_le (a b : List Char) : strLe a b = true ↔ a ≤ b := by
  rw [strLe, Bool.not_eq_true', strLt_eq_false_iff]

theorem strLt_irrefl : ∀ a : List Char, strLt a a = false :=
  fun a => (strLt_eq_false_iff a a).mpr (Std.le_refl a)

theorem strLt_asymm (a b : List Char) (h : strLt a b = true) : strLt b a = false :=
  (strLt_eq_false_iff b a).mpr (List.le_of_lt ((strLt_iff_lt a b).mp h))

theorem strLt_trichotomy (a b : List Char) (h1 : strLt a b = false) (h2 : strLt b a = false) : a = b :=
  Std.le_antisymm ((strLt_eq_false_iff b a).mp h2) ((strLt_eq_false_iff a b).mp h1)

theorem strLt_trans (a b c : List Char) (h1 : strLt a b = true) (h2 : strLt b c = true) : strLt a c = true :=
  (strLt_iff_lt a c).mpr (List.lt_trans ((strLt_iff_lt a b).mp h1) ((strLt_iff_lt b c).mp h2))

/-- the order used for listing keys is a total order on names -/
theorem strLe_total (a b : List Char) : (strLe a b || strLe b a) = true := by
  rw [Bool.or_eq_true, strLe_iff_le, strLe_iff_le]; exact Std.le_total

theorem strLe_trans (a b c : List Char) (h1 : strLe a b = true) (h2 : strLe b c = true) : strLe a c = true :=
  (strLe_iff_le a c).mpr (Std.le_trans ((strLe_iff_le a b).mp h1) ((strLe_iff_le b c).mp h2))

theorem strLe_antisymm (a b : List Char) (h1 : strLe a b = true) (h2 : strLe b a = true) : a = b :=
  Std.le_antisymm ((strLe_iff_le a b).mp h1) ((strLe_iff_le b a).mp h2)

/-- listing the keys of an object gives the same sequence whatever order the host iterates the map in:
    sorting any two permutations of a duplicate-free key list yields one and the same list -/
theorem keys_stable (ks₁ ks₂ : List Name) (hp : ks₁.Perm ks₂) : sortKeys ks₁ = sortKeys ks₂ := by
  have sorted (ks : List Name) := List.pairwise_mergeSort (le := strLe) strLe_trans strLe_total ks
  have hperm : (sortKeys ks₁).Perm (sortKeys ks₂) :=
    ((List.mergeSort_perm ks₁ _).trans hp).trans (List.mergeSort_perm ks₂ _).symm
  exact hperm.eq_of_pairwise (fun a b _ _ => strLe_antisymm a b) (sorted ks₁) (sorted ks₂)

/-- so the key listing and the value listing of an object are independent of iteration order -/
theorem listing_independent_of_iteration_order (σ : Store) (r : Nat) (perm : List (Name × Val))
    (hp : perm.Perm (σ.objs[r]?.getD [])) :
    sortKeys (perm.map (·.1)) = sortKeys ((σ.objs[r]?.getD []).map (·.1)) :=
  keys_stable _ _ (hp.map _)

/-! ## the model keeps an object's properties in insertion order, a Go map has no order: nothing observable depends on it -/

/-- looking a key up in a duplicate-free property list does not depend on the order of the list -/
theorem lookup_perm {α : Type} {ps qs : List (Name × α)} (hp : ps.Perm qs) (hnd : (ps.map (·.1)).Nodup) (k : Name) :
    ps.lookup k = qs.lookup k :=
  Option.ext fun v => by
    rw [ListAux.lookup_eq_some_iff_mem hnd, ListAux.lookup_eq_some_iff_mem ((hp.map _).nodup_iff.mp hnd), hp.mem_iff]

/-- the printed properties depend on the property list only through look-ups -/
theorem showProps_congr (σ : Store) : ∀ (f : Nat) (ps qs : List (Name × Val)) (ks : List Name),
    (∀ k, ps.lookup k = qs.lookup k) → showProps σ f ps ks = showProps σ f qs ks := by
  intro f ps qs ks h
  simp only [showProps_eq_showList, h]

/-- **what an object shows, lists and yields on a read is the same for every order its properties
    could be stored in**: for two duplicate-free property lists that are permutations of each other,
    every read, the key listing, the value listing and the printed text coincide -/
theorem object_observations_independent_of_storage_order (σ : Store) (f : Nat) (ps qs : List (Name × Val))
    (hp : ps.Perm qs) (hnd : (ps.map (·.1)).Nodup) :
    (∀ k, ps.lookup k = qs.lookup k) ∧
    sortKeys (ps.map (·.1)) = sortKeys (qs.map (·.1)) ∧
    (sortKeys (ps.map (·.1))).map (fun k => (ps.lookup k).getD .nil) = (sortKeys (qs.map (·.1))).map (fun k => (qs.lookup k).getD .nil) ∧
    showProps σ f ps (sortKeys (ps.map (·.1))) = showProps σ f qs (sortKeys (qs.map (·.1))) := by
  have hl := lookup_perm hp hnd
  have hk := keys_stable _ _ (hp.map (·.1))
  refine ⟨hl, hk, ?_, ?_⟩
  · rw [hk]; exact List.map_congr_left (fun k _ => by rw [hl k])
  · rw [hk]; exact showProps_congr σ f ps qs _ hl

theorem fold_keeps_head {α : Type} (k : Name) (v : α) :
    ∀ (ps acc : List (Name × α)), k ∉ ps.map (·.1) →
      ∃ rest, ps.foldl (fun acc p => upsert p.1 p.2 acc) ((k, v) :: acc) = (k, v) :: rest := by
  intro ps
  induction ps with
  | nil => exact fun acc _ => ⟨acc, rfl⟩
  | cons p ps ih =>
    intro acc h
    rw [List.map_cons, List.mem_cons, not_or] at h
    rw [List.foldl_cons, upsert, if_neg h.1]
    exact ih _ h.2

/-- the initialisers of an object literal are evaluated in source order: the first key written
    stays first (and so on down the list), later duplicates only replace the initialiser -/
theorem literal_source_order {α : Type} (k : Name) (v : α) (ps : List (Name × α)) (h : k ∉ ps.map (·.1)) :
    ∃ rest, effectiveProps ((k, v) :: ps) = (k, v) :: rest :=
  fold_keeps_head k v ps [] h

open Cli in
/-- **what the model answers is a function of the program and its input alone — not of the step budget the
    driver happens to give it**: whenever `run` with budget `f` ends in anything but "out of fuel", every larger
    budget produces exactly the same stdout, diagnostics, flags, remaining input and event count.
    (So the budget of the correspondence driver is not a parameter of any verdict: an answer is *the* answer, and
    "out of fuel" is the only outcome a larger budget can change.) -/
theorem run_independent_of_fuel (P : Platform) (f f' : Nat) (hf : f ≤ f') (src : List Char) (repl : Bool) (input : List Char)
    (h : (run P f src repl input).abnormal ≠ some .fuel) : run P f' src repl input = run P f src repl input := by
  rcases frontEnd_cases P.lm src with ⟨a, ha⟩ | hd | ⟨prog, hacc⟩
  · rw [run_abnormal ha, run_abnormal ha]
  · rw [run_rejected hd, run_rejected hd]
  · rw [run_accepted hacc] at h
    rw [run_accepted hacc, run_accepted hacc, interpret_stable P f f' hf prog repl input]
    intro he
    rw [he] at h
    exact h rfl

end Borno.Props.C13
