import BornoModel.Lemmas.CliEqs
import BornoModel.Lemmas.EvalEqs
/-! # C20 — in the REPL a failed line never affects later lines; expression values echo -/
namespace Borno.Props.C20
open Cli

theorem replRespond_eq (P : Platform) (fuel : Nat) : replRespond P fuel = fun l => run P fuel l true [] := rfl

/-- the session's stdout is, line by line, a prompt followed by that line's own response —
    a function of the line alone (fresh interpreter, fresh flags), whatever came before it -/
theorem repl_lines_independent (P : Platform) (fuel : Nat) (inp : List Char) :
    (repl P fuel inp).1 =
      (scanLines inp).flatMap (fun l => promptText ++ (run P fuel l true []).out) ++ promptText := by
  simp [repl, replRespond_eq, List.flatMap_def, List.foldl_map]

/-- stderr likewise is the concatenation of the per-line diagnostics -/
theorem repl_stderr_per_line (P : Platform) (fuel : Nat) (inp : List Char) :
    (repl P fuel inp).2 = (scanLines inp).flatMap (fun l => (run P fuel l true []).stderr) := by
  simp [repl, replRespond_eq, List.flatMap_def, List.foldl_map]

/-- a line with a lexical or syntax error produces no output at all (and runs nothing) -/
theorem failed_line_silent (P : Platform) (fuel : Nat) (line : List Char)
    (h : (frontEnd P.lm line).diags ≠ []) (hab : (frontEnd P.lm line).abnormal = none) :
    (run P fuel line true []).out = [] := by
  rw [run_rejected h, hab]

/-- interactive mode is entered with no arguments and always ends with status 0 -/
theorem eof_status0 (P : Platform) (fuel : Nat) (file : Option (List Char)) (stdin : List Char) :
    (main P fuel [] file stdin).status = 0 := by simp [main, mode]

/-- a bare expression statement echoes its value in interactive mode (and only there) -/
theorem expression_statement_echoed (P : Platform) (f : Nat) (e : Expr) (env : Nat) (σ σ1 : Store) (v : Val) (t : List Char)
    (h0 : σ.hadError = false) (he : evalE P f e env true σ = .ok (v, .none) σ1) (h1 : σ1.hadError = false)
    (ht : stringify σ1 (showFuel σ1) v = some t) :
    evalS P (f + 1) (.expr e) env true σ = .ok (v, .none) (σ1.print (t ++ ['\n'])) ∧
    (evalE P f e env false σ = .ok (v, .none) σ1 → evalS P (f + 1) (.expr e) env false σ = .ok (v, .none) σ1) := by
  constructor
  · rw [evalS, guardErr_ok h0, he]
    simp [h1, ht]
  · intro he'
    rw [evalS, guardErr_ok h0, he']
    simp

/-- the text of a session: each line followed by a newline -/
def sessionText (ls : List (List Char)) : List Char := ls.flatMap (· ++ ['\n'])

/-- a well-formed input line: no newline inside, no carriage return at its end -/
def PlainLine (l : List Char) : Prop := '\n' ∉ l ∧ l.getLast? ≠ some '\r'

theorem scanLines_go_session (ls : List (List Char)) (hl : ∀ l ∈ ls, PlainLine l) :
    ∀ f, (sessionText ls).length + 1 ≤ f → scanLines.go f (sessionText ls) = ls := by
  induction ls with
  | nil => intro f _; cases f <;> rfl
  | cons l ls ih =>
    intro f hf
    obtain ⟨hnl, hcr⟩ := hl l List.mem_cons_self
    have hs : sessionText (l :: ls) = l ++ '\n' :: sessionText ls := by simp [sessionText]
    have hne : ∀ c ∈ l, (decide (c ≠ '\n')) = true := fun c hc => decide_eq_true fun e => hnl (e ▸ hc)
    rw [hs] at hf ⊢
    cases f with
    | zero => simp at hf
    | succ f =>
      rw [scanLines.go]
      · rw [List.takeWhile_append_of_pos hne, List.dropWhile_append_of_pos hne]
        simp [hcr, ih (fun l' h' => hl l' (List.mem_cons_of_mem _ h')) f (by simp at hf; omega)]
      · simp

/-- a session typed as lines is split into exactly those lines -/
theorem scanLines_session (ls : List (List Char)) (hl : ∀ l ∈ ls, PlainLine l) :
    scanLines (sessionText ls) = ls := scanLines_go_session ls hl _ (Nat.le_refl _)

/-- **C20, whole sessions.**  Whatever lines were typed — failing or not —, the session's stdout is the
    prompt followed by each line's own response, in order, then the final prompt; the response
    to a line is what the same line answers as the only line of a fresh session. -/
theorem session_stdout (P : Platform) (fuel : Nat) (ls : List (List Char)) (hl : ∀ l ∈ ls, PlainLine l) :
    (repl P fuel (sessionText ls)).1 = ls.flatMap (fun l => promptText ++ (run P fuel l true []).out) ++ promptText := by
  rw [repl_lines_independent, scanLines_session ls hl]

theorem session_stderr (P : Platform) (fuel : Nat) (ls : List (List Char)) (hl : ∀ l ∈ ls, PlainLine l) :
    (repl P fuel (sessionText ls)).2 = ls.flatMap (fun l => (run P fuel l true []).stderr) := by
  rw [repl_stderr_per_line, scanLines_session ls hl]

/-- a probe line after any history answers exactly as in a fresh session:
    the session's stdout is the history's stdout (without its final prompt) followed by the fresh session's stdout -/
theorem later_line_answers_as_fresh (P : Platform) (fuel : Nat) (hist : List (List Char)) (probe : List Char)
    (hh : ∀ l ∈ hist, PlainLine l) (hp : PlainLine probe) :
    (repl P fuel (sessionText (hist ++ [probe]))).1 =
      hist.flatMap (fun l => promptText ++ (run P fuel l true []).out) ++ (repl P fuel (sessionText [probe])).1 ∧
    (repl P fuel (sessionText (hist ++ [probe]))).2 =
      (repl P fuel (sessionText hist)).2 ++ (repl P fuel (sessionText [probe])).2 := by
  have h2 : ∀ l ∈ [probe], PlainLine l := fun l hl => List.mem_singleton.mp hl ▸ hp
  have h1 : ∀ l ∈ hist ++ [probe], PlainLine l := fun l hl => (List.mem_append.mp hl).elim (hh l) (h2 l)
  rw [session_stdout P fuel _ h1, session_stdout P fuel _ h2, session_stderr P fuel _ h1, session_stderr P fuel _ hh,
    session_stderr P fuel _ h2]
  simp [List.flatMap_append, List.append_assoc]

/-- the premises are satisfiable: a failing line followed by a probe -/
example : PlainLine "1 +;".toList ∧ PlainLine "1 + 2;".toList := by
  unfold PlainLine; decide +kernel

end Borno.Props.C20
