import BornoModel.Lemmas.CliEqs
import BornoModel.Lemmas.LexInsert
import BornoModel.Lemmas.Paren
/-! # C18 — meaning is invariant under layout, digit script, synonyms, renaming, parentheses -/
namespace Borno.Props.C18
open Lexer

/-- (c) the symbol and the word spelling of each logical operator give the same token type, and the
    tree keeps only the type -/
theorem logical_synonyms :
    Expect.keywords.lookup (Expect.cps [0x098F, 0x09AC, 0x0982]) = some .LOGICAL_AND ∧
    Expect.keywords.lookup (Expect.cps [0x09AC, 0x09BE]) = some .LOGICAL_OR ∧
    (Expect.twoOps.lookup '&').map (fun p => p.1.lookup '&') = some (some .LOGICAL_AND) ∧
    (Expect.twoOps.lookup '|').map (fun p => p.1.lookup '|') = some (some .LOGICAL_OR) := by decide

theorem logical_node_ignores_spelling (k : Nat) (l r : Expr) (t t' : Token) (hk : Parser.levelNode k = .logical)
    (ht : t.tt = t'.tt) : Parser.mkBin k l t r = Parser.mkBin k l t' r := by
  simp [Parser.mkBin, hk, ht]

/-- (a) blanks between tokens produce no token, no diagnostic and do not move the line -/
theorem blank_is_trivia (lm : Char → Bool) (c : Char) (r : List Char) (line : Nat) (hc : c = ' ' ∨ c = '\t' ∨ c = '\r') :
    scanToken lm (c :: r) line = some ⟨none, none, [c], r, line⟩ := by
  rcases hc with rfl | rfl | rfl <;> rfl

/-- a line break produces no token either; it only advances the line counter -/
theorem newline_is_trivia (lm : Char → Bool) (r : List Char) (line : Nat) :
    scanToken lm ('\n' :: r) line = some ⟨none, none, ['\n'], r, line + 1⟩ := rfl

/-- a line comment produces no token and ends before the newline -/
theorem line_comment_is_trivia (lm : Char → Bool) (r : List Char) (line : Nat) :
    ∃ st, scanToken lm ('/' :: '/' :: r) line = some st ∧ st.tok = none ∧ st.diag = none ∧
      st.rest = r.dropWhile notNl ∧ st.line = line :=
  ⟨_, rfl, rfl, rfl, rfl, rfl⟩

/-- a terminated block comment produces no token and no diagnostic; the scan resumes right after
    its `*/` with the line counter advanced by the newlines inside it -/
theorem block_comment_is_trivia (lm : Char → Bool) (r u rest : List Char) (line : Nat) (h : blockComment r = (u, some rest)) :
    scanToken lm ('/' :: '*' :: r) line = some ⟨none, none, '/' :: '*' :: u, rest, line + countNl u⟩ := by
  show some (scanSlash ('*' :: r) line) = _
  simp [scanSlash, h]

/-- the first `*/` ends the comment -/
theorem blockComment_first_close : ∀ (body rest : List Char),
    (∀ i, i + 1 < body.length → ¬ (body[i]? = some '*' ∧ body[i+1]? = some '/')) → body.getLast? ≠ some '*' →
    blockComment (body ++ '*' :: '/' :: rest) = (body ++ ['*', '/'], some rest)
  | [], rest, _, _ => blockComment_close rest
  | [c], rest, _, _ => by
    have hc : ¬ (c = '*' ∧ ('*' :: '/' :: rest).head? = some '/') := fun h => absurd (Option.some.inj h.2) (by decide)
    rw [List.cons_append, List.nil_append, blockComment_cons hc, blockComment_close]
    rfl
  | c :: d :: ds, rest, hno, hlast => by
    have hc : ¬ (c = '*' ∧ ((d :: ds) ++ '*' :: '/' :: rest).head? = some '/') :=
      fun h => hno 0 (Nat.succ_lt_succ (Nat.succ_pos _)) ⟨congrArg some h.1, h.2⟩
    rw [List.cons_append, blockComment_cons hc,
      blockComment_first_close (d :: ds) rest (fun i hi => hno (i + 1) (Nat.succ_lt_succ hi))
        (by rwa [List.getLast?_cons_cons] at hlast)]
    rfl

/-- (b) the two digit scripts go through one transliteration (see C10) -/
theorem digit_script_invariant (c : Char) (h : 0x30 ≤ c.toNat ∧ c.toNat ≤ 0x39) :
    translitChar (Char.ofNat (c.toNat + 0x9B6)) = translitChar c := by
  have := C10.script_swap_invariant c h
  rw [this.1, this.2]

/-- (e) redundant parentheses: a grouping evaluates to exactly what its content evaluates to -/
theorem grouping_transparent (P : Platform) (f : Nat) (e : Expr) (line env : Nat) (repl : Bool) (σ : Store) (h0 : σ.hadError = false) :
    evalE P (f + 1) (.grouping e line) env repl σ = evalE P f e env repl σ :=
  evalE_grouping P f e line env repl h0

/-- (f) never-executed code: the untaken arm of a conditional leaves no trace -/
theorem dead_branch_invisible (P : Platform) (f : Nat) (c : Expr) (s : Stmt) (env : Nat) (repl : Bool) (σ σ1 : Store) (cv : Val)
    (h0 : σ.hadError = false) (hc : evalE P f c env repl σ = .ok (cv, .none) σ1) (ht : truthy cv = false) :
    evalS P (f + 1) (.ifS c s none) env repl σ = .ok (.nil, .none) σ1 := by
  rw [evalS, guardErr_ok h0, hc, ER.seq_ok, if_neg (by simp [ht])]; rfl

/-- the general form: **one piece of trivia — a blank, a line break, a complete block comment —
    inserted after any closed scanning step** (a token, a blank, a line break, a complete block comment;
    for a comment: not after a `/` token, which it would turn into another token or comment)
    changes no token and no diagnostic, only the line numbers of what follows.  Since the inserted
    piece is itself a closed step, insertions can be repeated: any sequence of blanks, line
    breaks and comments between two tokens. -/
theorem trivia_piece_insertion (lm : Char → Bool) (hlm : lm '\n' = false) (b : Char) (T' : List Char) (hb : isGap' b) (hlmb : lm b = false)
    (A B : List Char) (toks : List Token) (ds : List Diag)
    (hT : ∀ l, scanToken lm ((b :: T') ++ B) l = some ⟨none, none, b :: T', B, l + countNl (b :: T')⟩)
    (hat : AfterStep lm (fun st => Closed b st ∧ (st.rest ≠ [] ∨ st.tok.isSome = true)) A B 1)
    (h : Lexer.scan lm (A ++ B) = some (toks, ds)) :
    ∃ toks' ds', Lexer.scan lm (A ++ (b :: T') ++ B) = some (toks', ds') ∧
      toks'.map tokShape = toks.map tokShape ∧ ds'.map diagShape = ds.map diagShape := by
  obtain ⟨t₁, t₂, d₁, d₂, rfl, rfl, h'⟩ := scan_insert_trivia lm hlm b T' hb hlmb A B toks ds hT (hat.mono fun _ => And.left) h
  exact ⟨_, _, h', by simp [tokShape_shift], by simp [diagShape_shift]⟩

/-- **inserting a blank, a tab or a carriage return immediately after any token of a text leaves the
    scanner's whole output unchanged** — the same tokens with the same lines, the same diagnostics.
    (`AfterToken lm A B 1`: the scanner consumes `A` in whole steps and the last one yields a token;
    `lm b = false`: a blank is not a letter.) -/
theorem blank_insertion_after_any_token (lm : Char → Bool) (hlm : lm '\n' = false) (b : Char)
    (hb : b = ' ' ∨ b = '\t' ∨ b = '\r') (hlmb : lm b = false) (A B : List Char) (toks : List Token) (ds : List Diag)
    (hat : AfterToken lm A B 1) (h : Lexer.scan lm (A ++ B) = some (toks, ds)) :
    Lexer.scan lm (A ++ b :: B) = some (toks, ds) := by
  have hz : countNl [b] = 0 := by rcases hb with rfl | rfl | rfl <;> rfl
  have hns : b ≠ '/' := fun e => absurd (e ▸ hb) (by decide)
  obtain ⟨t₁, t₂, d₁, d₂, rfl, rfl, h'⟩ := scan_insert_trivia lm hlm b [] (hb.imp_right (·.imp_right .inl)) hlmb A B toks ds
    (fun l => by rw [hz]; exact blank_is_trivia lm b B l hb)
    (hat.afterStep.mono fun st ht => .inl ⟨ht, fun e => absurd e hns⟩) h
  rwa [hz, (shift_zero t₂ d₂).1, (shift_zero t₂ d₂).2, List.append_assoc] at h'

/-- **inserting a line break immediately after any token changes no token and no diagnostic, only
    line numbers** -/
theorem newline_insertion_after_any_token (lm : Char → Bool) (hlm : lm '\n' = false) (A B : List Char)
    (toks : List Token) (ds : List Diag) (hat : AfterToken lm A B 1) (h : Lexer.scan lm (A ++ B) = some (toks, ds)) :
    ∃ toks' ds', Lexer.scan lm (A ++ '\n' :: B) = some (toks', ds') ∧
      toks'.map tokShape = toks.map tokShape ∧ ds'.map diagShape = ds.map diagShape := by
  rw [List.append_cons]
  exact trivia_piece_insertion lm hlm '\n' [] (.inr (.inr (.inr (.inl rfl)))) hlm A B toks ds (newline_is_trivia lm B)
    (hat.afterStep.mono fun st ht => ⟨.inl ⟨ht, fun e => absurd e (by decide)⟩, .inr ht⟩) h

/-- in particular a complete block comment after any token other than `/` -/
theorem block_comment_insertion_after_token (lm : Char → Bool) (hlm : lm '\n' = false) (hlms : lm '/' = false)
    (r0 u rest0 : List Char) (hbc : blockComment r0 = (u, some rest0))
    (A B : List Char) (toks : List Token) (ds : List Diag)
    (hat : AfterStep lm (fun st => st.tok.isSome = true ∧ st.used ≠ ['/']) A B 1)
    (h : Lexer.scan lm (A ++ B) = some (toks, ds)) :
    ∃ toks' ds', Lexer.scan lm (A ++ ('/' :: '*' :: u) ++ B) = some (toks', ds') ∧
      toks'.map tokShape = toks.map tokShape ∧ ds'.map diagShape = ds.map diagShape := by
  refine trivia_piece_insertion lm hlm '/' ('*' :: u) (.inr (.inr (.inr (.inr rfl)))) hlms A B toks ds (fun l => ?_)
    (hat.mono fun st h3 => ⟨.inl ⟨h3.1, fun _ => h3.2⟩, .inr h3.1⟩) h
  rw [List.cons_append, List.cons_append, block_comment_is_trivia lm (u ++ B) u B l (blockComment_swap r0 B hbc)]
  simp [countNl_cons]

/-- the one-step fact behind both: a scanning step looks at the unread text only through `Compat` -/
theorem step_ignores_unread_text (lm : Char → Bool) (c : Char) (r : List Char) (line : Nat) (st : Step)
    (h : scanToken lm (c :: r) line = some st) (hlive : st.rest ≠ [] ∨ st.tok.isSome = true)
    (Y : List Char) (hY : Compat lm c st.used Y) :
    scanToken lm (st.used ++ Y) line = some { st with rest := Y } := scanToken_swap lm c r line st h hlive Y hY

/-- non-vacuity: in `ab+1` the positions after `ab` and after `+` are each "after a token" -/
example :
    AfterToken (fun c => c.isAlpha) "ab".toList "+1".toList 1 ∧
    AfterToken (fun c => c.isAlpha) "ab+".toList "1".toList 1 := by
  simp only [String.reduceToList]
  -- the steps are named, not computed: the keyword table is never searched for `ab`
  have h1 : scanToken (fun c => c.isAlpha) (['a', 'b'] ++ ['+', '1']) 1 =
      some (scanWord (fun c => c.isAlpha) 'a' ['b', '+', '1'] 1) := rfl
  have h2 : scanToken (fun c => c.isAlpha) (['+'] ++ ['1']) 1 = some (plainTok .PLUS ['+'] ['1'] 1) := rfl
  exact ⟨.here h1 rfl rfl, .later (A' := ['+']) h1 rfl (by simp) (.here h2 rfl rfl)⟩

/-- (e) **redundant parentheses, at any depth**: wrapping any operand, argument, element, subscript, callee,
    receiver or assigned value of any enclosing expression in parentheses changes nothing — not the value, not the
    effects, not whether and how it fails — in every scope and store (from some step budget on); and so for the
    statements that print it, evaluate it, declare with it, return it or branch on it.
    (Object-literal initialisers, loop headers and bodies: `redundant_parentheses_whole_program` below.) -/
theorem redundant_parentheses_anywhere_in_an_expression (P : Platform) (C : Ctx) (e : Expr) (l : Nat) :
    EvEq P (C.plug (.grouping e l)) (C.plug e) ∧
    EvS P (.print (C.plug (.grouping e l))) (.print (C.plug e)) ∧
    EvS P (.expr (C.plug (.grouping e l))) (.expr (C.plug e)) ∧
    (∀ n dl, EvS P (.var ⟨n, dl, some (C.plug (.grouping e l))⟩) (.var ⟨n, dl, some (C.plug e)⟩)) ∧
    (∀ rl, EvS P (.returnS rl (some (C.plug (.grouping e l)))) (.returnS rl (some (C.plug e)))) ∧
    (∀ t el, EvS P (.ifS (C.plug (.grouping e l)) t el) (.ifS (C.plug e) t el)) :=
  have h := plug_congr P C (evEq_grouping P e l)
  ⟨h, evS_print P h, evS_expr P h, fun n dl => evS_var P n dl h, fun rl => evS_return P rl h, fun t el => evS_if P h (.refl P t) (.refl P el)⟩

/-- the hypothesis is met by every expression, the contexts are not trivial: `f(1, (x))` and `f(1, x)` -/
example (P : Platform) : EvEq P (.call (.ident "f".toList 1) 1 [.literal (.num (F64.ofNat 1)) 1, .grouping (.ident "x".toList 1) 1])
    (.call (.ident "f".toList 1) 1 [.literal (.num (F64.ofNat 1)) 1, .ident "x".toList 1]) :=
  (redundant_parentheses_anywhere_in_an_expression P (.arg (.ident "f".toList 1) 1 [.literal (.num (F64.ofNat 1)) 1] .hole []) (.ident "x".toList 1) 1).1

/-- (e) **redundant parentheses, whole programs**: let `prog'` be `prog` with parentheses inserted around any
    sub-expressions anywhere in its top-level statements, blocks, branches, loop headers (initialiser, test,
    increment), loop bodies and object-literal initialisers, at any depth — anywhere except inside the bodies of
    the functions it declares (`ParenSs`).  Then, from some step budget on, interpreting `prog'` ends in
    exactly the state interpreting `prog` ends in: the same stdout, the same diagnostics in the same order, the same
    flags, the same unread input — or the same abnormal end.  (Loops are handled by induction on the budget at which
    the loop answers: `Lemmas/InterchangeLoop`.) -/
theorem redundant_parentheses_whole_program (P : Platform) (prog prog' : List Stmt) (h : ParenSs prog prog')
    (repl : Bool) (input : List Char) :
    ∃ F0, ∀ F, F0 ≤ F → interpret P F prog repl input = interpret P F prog' repl input :=
  interpretLoop_ev2 P (parenSs_ev P h) 1 repl (initStore input)

/-- the relation is inhabited by non-trivial pairs: `যতক্ষণ (i < 3) { দেখাও i; }` and `যতক্ষণ ((i) < (3)) { দেখাও (i); }` -/
example : ParenSs
    [.whileS (.binary (.ident "i".toList 1) .LESS 1 (.literal (.num (F64.ofNat 3)) 1)) (.block [.print (.ident "i".toList 1)])]
    [.whileS (.binary (.grouping (.ident "i".toList 1) 1) .LESS 1 (.grouping (.literal (.num (F64.ofNat 3)) 1) 1))
      (.block [.print (.grouping (.ident "i".toList 1) 1)])] :=
  .cons (.whileS (.binary _ _ (.wrap 1 (.refl _)) (.wrap 1 (.refl _))) (.block (.cons (.print (.wrap 1 (.refl _))) .nil))) .nil

open Cli in
/-- (e) at the level of source texts and of everything `run` reports: if two texts pass the front end without a
    diagnostic and the tree of the second is the tree of the first with parentheses inserted (anywhere but inside
    function bodies), then from some step budget on `run` gives the same stdout, diagnostics, flags, unread input and
    event count for both -/
theorem redundant_parentheses_run (P : Platform) (src src' : List Char) (prog prog' : List Stmt)
    (h1 : (frontEnd P.lm src).abnormal = none ∧ (frontEnd P.lm src).diags = [] ∧ (frontEnd P.lm src).prog = some prog)
    (h2 : (frontEnd P.lm src').abnormal = none ∧ (frontEnd P.lm src').diags = [] ∧ (frontEnd P.lm src').prog = some prog')
    (h : ParenSs prog prog') (repl : Bool) (input : List Char) :
    ∃ F0, ∀ F, F0 ≤ F → run P F src repl input = run P F src' repl input := by
  obtain ⟨F0, h0⟩ := redundant_parentheses_whole_program P prog prog' h repl input
  refine ⟨F0, fun F hF => ?_⟩
  rw [run_accepted h1, run_accepted h2, h0 F hF]

end Borno.Props.C18
