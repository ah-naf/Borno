import BornoModel.Lemmas.LexStep
/-! # C09 — tokens are a faithful maximal-munch partition of the source, with true lines

`lm` is `unicode.IsLetter || unicode.IsMark`; the only fact used about it is that a newline is
neither (`hlm`). -/
namespace Borno.Props.C09
open Lexer ListAux

/-- what every scanning step guarantees about the text it consumed -/
structure StepOk (input : List Char) (line : Nat) (st : Step) : Prop where
  split : st.used ++ st.rest = input
  progress : st.used ≠ []
  line_eq : st.line = line + countNl st.used
  tok_lexeme : ∀ t, st.tok = some t → t.lexeme = st.used ∧ t.line = st.line ∧ t.tt ≠ .EOF
  silent : st.tok = none → st.diag = none →
    (∀ c ∈ st.used, Expect.blanks.contains c ∨ c = '\n') ∨ (∃ u, st.used = '/' :: '/' :: u) ∨ (∃ u, st.used = '/' :: '*' :: u)

theorem StepOk.noTok {input used rest : List Char} {line l : Nat} {diag : Option Diag} (hs : used ++ rest = input)
    (hne : used ≠ []) (hl : l = line + countNl used)
    (hsil : diag = none →
      (∀ c ∈ used, Expect.blanks.contains c ∨ c = '\n') ∨ (∃ u, used = '/' :: '/' :: u) ∨ (∃ u, used = '/' :: '*' :: u)) :
    StepOk input line ⟨none, diag, used, rest, l⟩ :=
  ⟨hs, hne, hl, fun _ h => (nomatch h), fun _ => hsil⟩

theorem plainTok_ok (tt : TT) (lexeme rest : List Char) (line : Nat) (hne : lexeme ≠ []) (hnl : ∀ c ∈ lexeme, c ≠ '\n')
    (htt : tt ≠ .EOF) : StepOk (lexeme ++ rest) line (plainTok tt lexeme rest line) :=
  ⟨rfl, hne, by simp [plainTok, countNl_zero hnl], fun t ht => by cases ht; exact ⟨rfl, rfl, htt⟩, nofun⟩

theorem scanTwo_ok (c : Char) (alts : List (Char × TT)) (dflt : TT) (r : List Char) (line : Nat)
    (h : Expect.twoOps.lookup c = some (alts, dflt)) : StepOk (c :: r) line (scanTwo c alts dflt r line) := by
  obtain ⟨h1, h2, h3, h4⟩ := tables.2.1 _ (lookup_mem h)
  rcases scanTwo_cases c alts dflt r with ⟨_, e⟩ | ⟨d, r', tt, rfl, hl, e⟩
  · rw [e]; exact plainTok_ok dflt [c] r line (by simp) (by simpa using h2) h1.1
  · have hd : d ≠ '\n' := by rintro rfl; rw [h4 '\n' (by simp)] at hl; cases hl
    rw [e]; exact plainTok_ok tt [c, d] r' line (by simp) (by simp [h2, hd]) (h3 _ (lookup_mem hl)).1

theorem blockComment_used : ∀ (r : List Char),
    (∀ rest, (blockComment r).2 = some rest → (blockComment r).1 ++ rest = r) ∧
    ((blockComment r).2 = none → (blockComment r).1 = r)
  | [] => by simp [blockComment]
  | c :: r => by
    by_cases h : c = '*' ∧ r.head? = some '/'
    · obtain ⟨rfl, hr⟩ := h
      obtain ⟨r', rfl⟩ := List.head?_eq_some_iff.mp hr
      simp [blockComment_close]
    · rw [blockComment_cons h]
      simpa using blockComment_used r

theorem scanSlash_ok (r : List Char) (line : Nat) : StepOk ('/' :: r) line (scanSlash r line) := by
  rcases scanSlash_cases r with ⟨_, e⟩ | ⟨r', rfl, e⟩ | ⟨r', u, rest, rfl, hb, e⟩ | ⟨r', u, rfl, hb, e⟩
  · rw [e]; exact plainTok_ok .SLASH ['/'] r line (by simp) (by simp) (by simp)
  · have hz : ∀ c ∈ r'.takeWhile notNl, c ≠ '\n' := fun c hc => by simpa [notNl] using takeWhile_forall notNl r' c hc
    rw [e]
    exact .noTok (by simp [List.takeWhile_append_dropWhile]) (by simp) (by simp [countNl_cons, countNl_zero hz])
      fun _ => .inr (.inl ⟨_, rfl⟩)
  · have hs : u ++ rest = r' := by simpa [hb] using (blockComment_used r').1 rest
    rw [e]
    exact .noTok (by simp [hs]) (by simp) (by simp [countNl_cons]) fun _ => .inr (.inr ⟨_, rfl⟩)
  · have hs : u = r' := by simpa [hb] using (blockComment_used r').2
    rw [e]
    exact .noTok (by simp [hs]) (by simp) (by simp [countNl_cons]) nofun

theorem scanString_ok (r : List Char) (line : Nat) : ∃ st, scanString r line = some st ∧ StepOk ('"' :: r) line st := by
  rcases scanString_cases r with ⟨_, e⟩ | ⟨rest, hd, e⟩
  · exact ⟨_, e line, .noTok (by simp) (by simp) (by simp [countNl_cons]) nofun⟩
  · have hs : r.takeWhile notQuote ++ '"' :: rest = r := by rw [← hd]; exact List.takeWhile_append_dropWhile
    exact ⟨_, e line, by simp [hs], by simp, by simp [countNl_cons, countNl_append], fun t ht => by cases ht; exact ⟨rfl, rfl, by simp⟩, nofun⟩

/-- the value of a string token is the text between its quotes, and that text contains no quote -/
theorem string_value (r : List Char) (line : Nat) (st : Step) (t : Token) (h : scanString r line = some st) (ht : st.tok = some t) :
    ∃ body, t.lexeme = '"' :: body ++ ['"'] ∧ t.lit = .str body ∧ '"' ∉ body ∧ t.tt = .STRING := by
  rcases scanString_cases r with ⟨_, e⟩ | ⟨rest, _, e⟩
  · rw [e] at h; cases h; cases ht
  · rw [e] at h; cases h; cases ht
    exact ⟨r.takeWhile notQuote, rfl, rfl, fun hm => by simpa [notQuote] using takeWhile_forall notQuote r _ hm, rfl⟩

theorem numFrac_ok (l : List Char) : (numFrac l).1 ++ (numFrac l).2 = l ∧ ∀ x ∈ (numFrac l).1, x ≠ '\n' := by
  rcases numFrac_cases l with ⟨_, e⟩ | ⟨d, r', rfl, hd, e⟩
  · simp [e]
  · rw [e]
    refine ⟨by simp [List.takeWhile_append_dropWhile], fun x hx => ?_⟩
    rcases List.mem_cons.mp hx with rfl | hx
    · decide
    · rcases List.mem_cons.mp hx with rfl | hx
      · exact isDigit_ne_nl hd
      · exact isDigit_ne_nl (takeWhile_forall isDigit _ _ hx)

theorem scanNumber_ok (c : Char) (r : List Char) (line : Nat) (hc : isDigit c = true) :
    StepOk (c :: r) line (scanNumber c r line) := by
  obtain ⟨hsplit, hnl⟩ := numFrac_ok (r.dropWhile isDigit)
  unfold scanNumber
  generalize numFrac (r.dropWhile isDigit) = fr at hsplit hnl ⊢
  have hused : (c :: r.takeWhile isDigit ++ fr.1) ++ fr.2 = c :: r := by
    simp [List.append_assoc, hsplit, List.takeWhile_append_dropWhile]
  have hz : countNl (c :: r.takeWhile isDigit ++ fr.1) = 0 :=
    countNl_zero fun x hx => by
      rcases List.mem_cons.mp hx with rfl | hx
      · exact isDigit_ne_nl hc
      · rcases List.mem_append.mp hx with hx | hx
        · exact isDigit_ne_nl (takeWhile_forall isDigit _ _ hx)
        · exact hnl x hx
  simp only
  split
  · exact ⟨hused, by simp, by simp only [hz, Nat.add_zero], fun t ht => by cases ht; exact ⟨rfl, rfl, by simp⟩, nofun⟩
  · exact .noTok hused (by simp) (by simp only [hz, Nat.add_zero]) nofun

theorem scanWord_ok (lm : Char → Bool) (hlm : lm '\n' = false) (c : Char) (r : List Char) (line : Nat) (hc : c ≠ '\n') :
    StepOk (c :: r) line (scanWord lm c r line) := by
  unfold scanWord
  have hw : ∀ x ∈ c :: r.takeWhile (isAlphaNum lm), x ≠ '\n' := by
    intro x hx
    rcases List.mem_cons.mp hx with rfl | hx
    · exact hc
    · rintro rfl
      simpa [isAlphaNum, isAlpha, hlm, isDigit_not_nl] using takeWhile_forall (isAlphaNum lm) _ _ hx
  simpa [List.takeWhile_append_dropWhile] using
    plainTok_ok _ (c :: r.takeWhile (isAlphaNum lm)) (r.dropWhile (isAlphaNum lm)) line (by simp) hw (keyword_plain _).1

/-- every scanning step succeeds on a non-empty input (no out-of-range access, no bad slice) and
    consumes a non-empty prefix of it, counting the newlines it passes -/
theorem scanToken_ok (lm : Char → Bool) (hlm : lm '\n' = false) (c : Char) (r : List Char) (line : Nat) :
    ∃ st, scanToken lm (c :: r) line = some st ∧ StepOk (c :: r) line st := by
  cases lead lm c with
  | single tt h scan =>
    obtain ⟨h1, h2⟩ := tables.1 _ (lookup_mem h)
    exact ⟨_, scan r line, plainTok_ok tt [c] r line (by simp) (by simpa using h2) h1.1⟩
  | two alts dflt h scan => exact ⟨_, scan r line, scanTwo_ok c alts dflt r line h⟩
  | slash h scan => subst h; exact ⟨_, scan r line, scanSlash_ok r line⟩
  | blank h scan =>
    have hcn : c ≠ '\n' := by rintro rfl; revert h; decide
    exact ⟨_, scan r line, .noTok rfl (by simp) (by simp [countNl_cons, hcn]) fun _ =>
      .inl fun x hx => by rw [List.mem_singleton.mp hx]; exact .inl h⟩
  | newline h scan => subst h; exact ⟨_, scan r line, .noTok rfl (by simp) (by simp [countNl_cons]) fun _ => .inl (by simp)⟩
  | quote h scan => subst h; rw [scan]; exact scanString_ok r line
  | digit h scan => exact ⟨_, scan r line, scanNumber_ok c r line h⟩
  | word h hnl scan => exact ⟨_, scan r line, scanWord_ok lm hlm c r line hnl⟩
  | other hnl scan => exact ⟨_, scan r line, .noTok rfl (by simp) (by simp [countNl_cons, hnl]) nofun⟩

theorem stepOk_of_scan {lm : Char → Bool} (hlm : lm '\n' = false) {c : Char} {r : List Char} {line : Nat} {st : Step}
    (h : scanToken lm (c :: r) line = some st) : StepOk (c :: r) line st := by
  obtain ⟨st', h', hok⟩ := scanToken_ok lm hlm c r line
  rw [h] at h'; cases h'; exact hok

/-- the pieces a text is cut into -/
inductive Scans (lm : Char → Bool) : List Char → Nat → List Step → Prop
  | nil (line : Nat) : Scans lm [] line []
  | cons {c r line st steps} : scanToken lm (c :: r) line = some st → Scans lm st.rest st.line steps →
      Scans lm (c :: r) line (st :: steps)

theorem Scans.of_mem {lm : Char → Bool} {src : List Char} {line : Nat} {steps : List Step} (h : Scans lm src line steps)
    {st : Step} (hm : st ∈ steps) : ∃ c r l, scanToken lm (c :: r) l = some st := by
  induction h with
  | nil => cases hm
  | cons hst _ ih =>
    rcases List.mem_cons.mp hm with rfl | hm
    · exact ⟨_, _, _, hst⟩
    · exact ih hm

theorem scanLoop_scans (lm : Char → Bool) (hlm : lm '\n' = false) : ∀ (fuel : Nat) (src : List Char) (line : Nat) (toks : List Token) (ds : List Diag),
    scanLoop lm fuel src line = some (toks, ds) →
    ∃ steps, Scans lm src line steps ∧
      toks = steps.filterMap (·.tok) ++ [⟨.EOF, [], .none, line + countNl src⟩] ∧
      ds = steps.filterMap (·.diag)
  | 0, _, _, _, _, h => by rw [scanLoop_zero] at h; cases h
  | f + 1, [], line, _, _, h => by
    rw [scanLoop_nil] at h; cases h
    exact ⟨[], .nil line, rfl, rfl⟩
  | f + 1, c :: r, line, _, _, h => by
    obtain ⟨st, hst, hok⟩ := scanToken_ok lm hlm c r line
    rw [scanLoop_succ hst] at h
    obtain ⟨⟨ts, ds'⟩, hrec, he⟩ := Option.map_eq_some_iff.mp h
    cases he
    obtain ⟨steps, hs, rfl, rfl⟩ := scanLoop_scans lm hlm f _ _ _ _ hrec
    have hline : st.line + countNl st.rest = line + countNl (c :: r) := by
      rw [hok.line_eq, ← hok.split, countNl_append]; omega
    refine ⟨st :: steps, .cons hst hs, ?_, ?_⟩
    · rw [hline]; cases htk : st.tok <;> simp [htk]
    · cases hdg : st.diag <;> simp [hdg]

/-- **partition**: the pieces, in order, concatenate to the source; each token's lexeme is exactly the text
    of its piece, so the lexemes appear in source order, do not overlap, and everything between them is
    a blank, a newline, a comment, or a diagnosed piece -/
theorem scans_partition (lm : Char → Bool) (hlm : lm '\n' = false) : ∀ (src : List Char) (line : Nat) (steps : List Step),
    Scans lm src line steps →
    steps.flatMap (·.used) = src ∧
    (∀ st ∈ steps, st.used ≠ [] ∧ (∀ t, st.tok = some t → t.lexeme = st.used ∧ t.tt ≠ .EOF) ∧
      (st.tok = none → st.diag = none →
        (∀ c ∈ st.used, Expect.blanks.contains c ∨ c = '\n') ∨ (∃ u, st.used = '/' :: '/' :: u) ∨ (∃ u, st.used = '/' :: '*' :: u))) := by
  intro src line steps h
  refine ⟨?_, fun st hm => ?_⟩
  · induction h with
    | nil => rfl
    | cons hst _ ih => rw [List.flatMap_cons, ih, (stepOk_of_scan hlm hst).split]
  · obtain ⟨c, r, l, hst⟩ := h.of_mem hm
    have hok := stepOk_of_scan hlm hst
    exact ⟨hok.progress, fun t ht => ⟨(hok.tok_lexeme t ht).1, (hok.tok_lexeme t ht).2.2⟩, hok.silent⟩

/-- **true lines**: every token carries 1 + the number of newlines that precede its last character
    (for a scan started at line 1; in general `line` + the newlines of the text up to the token's end) -/
theorem scans_lines (lm : Char → Bool) (hlm : lm '\n' = false) : ∀ (src : List Char) (line : Nat) (steps : List Step),
    Scans lm src line steps →
    ∀ (pre : List Step) (st : Step) (post : List Step), steps = pre ++ st :: post →
      st.line = line + countNl ((pre ++ [st]).flatMap (·.used)) ∧ (∀ t, st.tok = some t → t.line = st.line) := by
  intro src line steps h
  induction h with
  | nil => intro pre st post he; simp at he
  | @cons c r line st0 steps hst _ ih =>
    have hok := stepOk_of_scan hlm hst
    intro pre st post he
    cases pre with
    | nil =>
      cases he
      exact ⟨by simp [hok.line_eq], fun t ht => (hok.tok_lexeme t ht).2.1⟩
    | cons p pre' =>
      cases he
      obtain ⟨h1, h2⟩ := ih pre' st post rfl
      refine ⟨?_, h2⟩
      rw [h1, hok.line_eq]
      simp [List.flatMap_cons, countNl_append]; omega

/-- **totality and no abnormal termination of the lexer**: scanning any text, with the fuel `scan`
    provides, returns a token list — it never reaches a partial host operation and never runs out of fuel -/
theorem scanLoop_total (lm : Char → Bool) (hlm : lm '\n' = false) : ∀ (fuel : Nat) (src : List Char) (line : Nat),
    src.length < fuel → ∃ toks ds, scanLoop lm fuel src line = some (toks, ds)
  | 0, _, _, h => by omega
  | f + 1, [], line, _ => ⟨_, _, scanLoop_nil lm f line⟩
  | f + 1, c :: r, line, h => by
    obtain ⟨st, hst, hok⟩ := scanToken_ok lm hlm c r line
    have hlen : st.rest.length < f := by
      have := congrArg List.length hok.split
      have := List.length_pos_iff.mpr hok.progress
      simp at *; omega
    obtain ⟨ts, ds, hrec⟩ := scanLoop_total lm hlm f st.rest st.line hlen
    exact ⟨_, _, by rw [scanLoop_succ hst, hrec]; rfl⟩

theorem scan_total (lm : Char → Bool) (hlm : lm '\n' = false) (src : List Char) : ∃ toks ds, scan lm src = some (toks, ds) :=
  scanLoop_total lm hlm _ src 1 (by omega)

/-- exactly one end-of-input token closes the list, carrying the line of the end of the text -/
theorem single_eof_last (lm : Char → Bool) (hlm : lm '\n' = false) (src : List Char) (toks : List Token) (ds : List Diag)
    (h : scan lm src = some (toks, ds)) :
    ∃ body, toks = body ++ [⟨.EOF, [], .none, 1 + countNl src⟩] ∧ ∀ t ∈ body, t.tt ≠ .EOF := by
  obtain ⟨steps, hs, ht, _⟩ := scanLoop_scans lm hlm _ _ _ _ _ h
  refine ⟨_, ht, ?_⟩
  intro t htm
  simp only [List.mem_filterMap] at htm
  obtain ⟨st, hst, htk⟩ := htm
  exact ((scans_partition lm hlm _ _ _ hs).2 st hst).2.1 t htk |>.2

/-- characters that start no token, unterminated strings and unterminated block comments each
    produce a diagnostic instead of being dropped silently: a piece that yields no token and no diagnostic
    is a blank, a newline, or a comment (see `scans_partition`); in particular: -/
theorem bad_input_diagnosed (lm : Char → Bool) (c : Char) (r : List Char) (line : Nat)
    (h1 : Expect.singleOps.lookup c = none) (h2 : Expect.twoOps.lookup c = none) (h3 : c ≠ '/')
    (h4 : Expect.blanks.contains c = false) (h5 : c ≠ '\n') (h6 : c ≠ '"') (h7 : isDigit c = false) (h8 : isAlpha lm c = false) :
    scanToken lm (c :: r) line = some ⟨none, some (.static line [] unexpectedChar), [c], r, line⟩ := by
  simp only [scanToken, h1, h2, h3, h4, h5, h6, h7, h8, if_false, Bool.false_eq_true]

theorem unterminated_string_diagnosed (r : List Char) (line : Nat) (h : r.dropWhile notQuote = []) :
    ∃ st, scanString r line = some st ∧ st.tok = none ∧ st.diag = some (.static st.line [] unterminatedString) := by
  unfold scanString; rw [h]; exact ⟨_, rfl, rfl, rfl⟩

/-- **maximal munch** for operators: the two-character operator is chosen whenever the second character fits -/
theorem two_char_operator_preferred (c d : Char) (alts : List (Char × TT)) (dflt tt : TT) (r : List Char) (line : Nat)
    (h : alts.lookup d = some tt) : (scanTwo c alts dflt (d :: r) line).used = [c, d] ∧
      (scanTwo c alts dflt (d :: r) line).tok = some ⟨tt, [c, d], .none, line⟩ := by
  simp [scanTwo, h, plainTok]

/-- **maximal munch** for words and numbers: what follows an identifier / keyword is not a letter, mark,
    `_` or digit, and what follows the integer part of a number is not a digit -/
theorem word_is_maximal (lm : Char → Bool) (c : Char) (r : List Char) (line : Nat) (x : Char) (rest : List Char)
    (h : (scanWord lm c r line).rest = x :: rest) : isAlphaNum lm x = false := by
  simp only [scanWord, plainTok] at h
  exact dropWhile_head (isAlphaNum lm) r x rest h

/-- a word is a keyword exactly when it equals one of the 15 entries of the keyword table -/
theorem keyword_iff_table (lm : Char → Bool) (c : Char) (r : List Char) (line : Nat) :
    ∃ t, (scanWord lm c r line).tok = some t ∧ t.lexeme = c :: r.takeWhile (isAlphaNum lm) ∧
      (t.tt = .IDENTIFIER ∨ (t.lexeme, t.tt) ∈ Expect.keywords) ∧
      (∀ tt, (t.lexeme, tt) ∈ Expect.keywords → Expect.keywords.lookup t.lexeme ≠ none) ∧ Expect.keywords.length = 15 := by
  refine ⟨_, rfl, rfl, ?_, fun tt hm hnone => ?_, by decide⟩
  · cases hl : Expect.keywords.lookup (c :: r.takeWhile (isAlphaNum lm)) with
    | none => exact .inl rfl
    | some tt => exact .inr (lookup_mem hl)
  · simpa using List.lookup_eq_none_iff.mp hnone _ hm

def LitOk (t : Token) : Prop :=
  (t.tt = .NUMBER → ∃ x, t.lit = .num x) ∧ (t.tt = .STRING → ∃ s, t.lit = .str s)

theorem plainTok_litOk {tt : TT} {lexeme rest : List Char} {line : Nat} (h : PlainTT tt) {t : Token}
    (ht : (plainTok tt lexeme rest line).tok = some t) : LitOk t := by
  cases ht; exact ⟨fun e => absurd e h.2.1, fun e => absurd e h.2.2⟩

theorem scanToken_litOk (lm : Char → Bool) (c : Char) (r : List Char) (line : Nat) (st : Step) (t : Token)
    (h : scanToken lm (c :: r) line = some st) (ht : st.tok = some t) : LitOk t := by
  cases lead lm c with
  | single tt h1 scan => rw [scan] at h; cases h; exact plainTok_litOk (tables.1 _ (lookup_mem h1)).1 ht
  | two alts dflt h2 scan =>
    rw [scan] at h; cases h
    obtain ⟨hd, _, ha, _⟩ := tables.2.1 _ (lookup_mem h2)
    rcases scanTwo_cases c alts dflt r with ⟨_, e⟩ | ⟨d, r', tt, rfl, hl, e⟩
    · rw [e] at ht; exact plainTok_litOk hd ht
    · rw [e] at ht; exact plainTok_litOk (ha _ (lookup_mem hl)) ht
  | slash _ scan =>
    rw [scan] at h; cases h
    rcases scanSlash_cases r with ⟨_, e⟩ | ⟨_, _, e⟩ | ⟨_, _, _, _, _, e⟩ | ⟨_, _, _, _, e⟩
    · rw [e] at ht; exact plainTok_litOk (by decide) ht
    · rw [e] at ht; cases ht
    · rw [e] at ht; cases ht
    · rw [e] at ht; cases ht
  | blank _ scan => rw [scan] at h; cases h; cases ht
  | newline _ scan => rw [scan] at h; cases h; cases ht
  | quote _ scan =>
    rw [scan] at h
    obtain ⟨body, _, hlit, _, htt⟩ := string_value r line st t h ht
    exact ⟨fun e => (by rw [htt] at e; cases e), fun _ => ⟨body, hlit⟩⟩
  | digit _ scan =>
    rw [scan] at h; cases h
    simp only [scanNumber] at ht
    split at ht
    · cases ht; exact ⟨fun _ => ⟨_, rfl⟩, nofun⟩
    · cases ht
  | word _ _ scan => rw [scan] at h; cases h; exact plainTok_litOk (keyword_plain _) ht
  | other _ scan => rw [scan] at h; cases h; cases ht

/-- every token the scanner produces is well-formed for the parser: NUMBER tokens carry a number,
    STRING tokens a string (and the closing EOF token carries nothing) -/
theorem scan_tokens_litOk (lm : Char → Bool) (hlm : lm '\n' = false) (src : List Char) (toks : List Token) (ds : List Diag)
    (h : scan lm src = some (toks, ds)) : ∀ t ∈ toks, LitOk t := by
  obtain ⟨steps, hs, rfl, _⟩ := scanLoop_scans lm hlm _ _ _ _ _ h
  intro t htm
  rcases List.mem_append.mp htm with hm | hm
  · obtain ⟨st, hst, htk⟩ := List.mem_filterMap.mp hm
    obtain ⟨c, r, l, hsc⟩ := hs.of_mem hst
    exact scanToken_litOk lm c r l st t hsc htk
  · cases List.mem_singleton.mp hm
    exact ⟨nofun, nofun⟩

end Borno.Props.C09
