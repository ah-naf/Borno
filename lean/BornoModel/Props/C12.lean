import BornoModel.Lemmas.EvalInv
/-! # C12 — objects are shared key→value maps with consistent read, write, delete, listing -/
namespace Borno.Props.C12

def objOf (σ : Store) (r : Nat) : List (Name × Val) := σ.objs[r]?.getD []

theorem lookup_cons_eq {α : Type} (k : Name) (v : α) (ps : List (Name × α)) : List.lookup k ((k, v) :: ps) = some v :=
  ListAux.lookup_cons_eq k v ps

theorem lookup_cons_ne {α : Type} (q k : Name) (v : α) (ps : List (Name × α)) (h : q ≠ k) :
    List.lookup q ((k, v) :: ps) = List.lookup q ps := by
  rw [ListAux.lookup_cons_ite, if_neg h]

/-- after `o.k = v`, `o.k` reads v -/
theorem upsert_lookup_self {α : Type} (k : Name) (v : α) (ps : List (Name × α)) : (upsert k v ps).lookup k = some v := by
  rw [Ext.upsert_lookup, if_pos rfl]

/-- … and no other property changes -/
theorem upsert_lookup_other {α : Type} (k q : Name) (v : α) (ps : List (Name × α)) (h : q ≠ k) :
    (upsert k v ps).lookup q = ps.lookup q := by
  rw [Ext.upsert_lookup, if_neg h]

/-- a write never duplicates a key: the key list stays duplicate-free -/
theorem upsert_keys {α : Type} (k : Name) (v : α) (ps : List (Name × α)) :
    (upsert k v ps).map (·.1) = if k ∈ ps.map (·.1) then ps.map (·.1) else ps.map (·.1) ++ [k] :=
  Ext.upsert_keys k v ps

theorem upsert_nodup {α : Type} (k : Name) (v : α) (ps : List (Name × α)) (h : (ps.map (·.1)).Nodup) :
    ((upsert k v ps).map (·.1)).Nodup :=
  Ext.upsert_nodup k v ps h

/-- property write through any holder of `obj r` updates the one shared table entry, and only property `p` of it -/
theorem prop_write_read (P : Platform) (f : Nat) (o v : Expr) (p : Name) (line env : Nat) (repl : Bool)
    (σ σ1 σ2 : Store) (r : Nat) (x : Val) (h0 : σ.hadError = false)
    (ho : evalE P f o env repl σ = .ok (.obj r, .none) σ1)
    (hv : evalE P f v env repl σ1 = .ok (x, .none) σ2) (hr : r < σ2.objs.length) :
    ∃ σ3, evalE P (f + 1) (.propAssign o p v line) env repl σ = .ok (x, .none) σ3 ∧
      (objOf σ3 r).lookup p = some x ∧
      (∀ q, q ≠ p → (objOf σ3 r).lookup q = (objOf σ2 r).lookup q) ∧
      (∀ r', r' ≠ r → objOf σ3 r' = objOf σ2 r') ∧ σ3.arrs = σ2.arrs ∧ σ3.out = σ2.out := by
  refine ⟨{ σ2 with objs := σ2.objs.set r (upsert p x (objOf σ2 r)) }, ?_, ?_, ?_, ?_, rfl, rfl⟩
  · rw [evalE, guardErr_ok h0, ho, ER.seq_ok, hv]; exact ER.seq_ok _ _ _
  · simp [objOf, hr, upsert_lookup_self]
  · intro q hq; simp [objOf, hr, Ext.upsert_lookup, hq]
  · intro r' hr'; simp [objOf, Ne.symm hr']

/-- reading an absent property, and `.` on something that is not an object, are runtime errors -/
theorem prop_read (P : Platform) (f : Nat) (o : Expr) (p : Name) (line env : Nat) (repl : Bool)
    (σ σ1 : Store) (ov : Val) (h0 : σ.hadError = false) (ho : evalE P f o env repl σ = .ok (ov, .none) σ1) :
    (∀ r v, ov = .obj r → (objOf σ1 r).lookup p = some v →
      evalE P (f + 1) (.propAccess o p line) env repl σ = .ok (v, .none) σ1) ∧
    (∀ r, ov = .obj r → (objOf σ1 r).lookup p = none →
      ∃ m, evalE P (f + 1) (.propAccess o p line) env repl σ = .ok (.nil, .none) (σ1.rte m line)) ∧
    ((∀ r, ov ≠ .obj r) →
      ∃ m, evalE P (f + 1) (.propAccess o p line) env repl σ = .ok (.nil, .none) (σ1.rte m line)) := by
  rw [evalE, guardErr_ok h0, ho, ER.seq_ok]
  refine ⟨?_, ?_, ?_⟩
  · intro r v hov hl; subst hov
    simp only [show (σ1.objs[r]?.getD []).lookup p = some v from hl]
  · intro r hov hl; subst hov
    simp only [show (σ1.objs[r]?.getD []).lookup p = none from hl]
    exact ⟨_, rfl⟩
  · intro hne
    cases ov
    case obj r => exact absurd rfl (hne r)
    all_goals exact ⟨_, rfl⟩

/-- `কি_রিমুভ(o, k)` removes exactly property k; an absent key is an error and changes nothing -/
theorem delete_exact (σ : Store) (r : Nat) (key : Name) (hr : r < σ.objs.length) :
    ((objOf σ r).lookup key ≠ none →
      ∃ σ', natDelete [.obj r, .str key] σ = .ok (.obj r, σ') ∧ (objOf σ' r).lookup key = none ∧
        (∀ q, q ≠ key → (objOf σ' r).lookup q = (objOf σ r).lookup q) ∧ (∀ r', r' ≠ r → objOf σ' r' = objOf σ r')) ∧
    ((objOf σ r).lookup key = none → ∃ m, natDelete [.obj r, .str key] σ = .error m) := by
  constructor
  · intro h
    refine ⟨{ σ with objs := σ.objs.set r ((σ.objs[r]?.getD []).filter (fun p => p.1 != key)) }, ?_, ?_⟩
    · exact if_pos (Option.isSome_iff_ne_none.mpr h)
    · have : objOf { σ with objs := σ.objs.set r ((σ.objs[r]?.getD []).filter (fun p => p.1 != key)) } r =
          (σ.objs[r]?.getD []).filter (fun p => p.1 != key) := by simp [objOf, hr]
      rw [this]
      exact ⟨by rw [ListAux.lookup_filter_ne, if_pos rfl], fun q hq => by rw [ListAux.lookup_filter_ne, if_neg hq]; rfl,
        fun r' hr' => by simp [objOf, Ne.symm hr']⟩
  · intro h
    unfold objOf at h
    simp only [natDelete, h]
    exact ⟨_, rfl⟩

/-- the key listing is a permutation of the object's keys (every property exactly once when keys are
    duplicate-free) and the value listing follows it: the i-th value is the value of the i-th key -/
theorem keys_values_consistent (σ : Store) (r : Nat) :
    ∃ (ks : List Name) (σk σv : Store), natKeys [.obj r] σ = .ok (.arr σ.arrs.length, σk) ∧ natValues [.obj r] σ = .ok (.arr σ.arrs.length, σv) ∧
      ks.Perm ((objOf σ r).map (·.1)) ∧
      σk.arrs[σ.arrs.length]? = some (ks.map .str) ∧
      σv.arrs[σ.arrs.length]? = some (ks.map fun k => ((objOf σ r).lookup k).getD .nil) := by
  refine ⟨sortKeys ((objOf σ r).map (·.1)), _, _, rfl, rfl, ?_, ?_, ?_⟩
  · exact List.mergeSort_perm _ _
  · simp [Store.newArr, objOf, objKeys]
  · simp [Store.newArr, objOf, objKeys]

/-- an object literal with distinct keys yields exactly its listed properties, in the listed order -/
theorem literal_distinct_keys_exact {α : Type} (ps : List (Name × α)) (h : (ps.map (·.1)).Nodup) :
    effectiveProps ps = ps := by
  suffices hh : ∀ acc : List (Name × α), ((acc ++ ps).map (·.1)).Nodup →
      ps.foldl (fun acc p => upsert p.1 p.2 acc) acc = acc ++ ps from hh [] h
  clear h
  induction ps with
  | nil => intro acc _; exact (List.append_nil acc).symm
  | cons p ps ih =>
    intro acc hacc
    have hp : p.1 ∉ acc.map (·.1) := fun hm =>
      (List.nodup_append.mp (List.map_append ▸ hacc)).2.2 _ hm _ List.mem_cons_self rfl
    rw [List.foldl_cons, Ext.upsert_of_not_mem p.2 hp, ih _ (by rwa [List.append_assoc]), List.append_assoc]
    rfl

/-- **no evaluation ever makes an object hold a key twice**: whatever is evaluated — any expression,
    statement, call, loop, built-in — from a store whose objects are duplicate-free, the objects of
    the resulting store are duplicate-free (literals with repeated keys, writes, deletes included) -/
theorem objects_stay_wellformed (P : Platform) (f : Nat) (e : Expr) (s : Stmt) (env : Nat) (repl : Bool) (σ σ' : Store) (r : Val × Signal)
    (hok : ObjsOk σ) :
    (evalE P f e env repl σ = .ok r σ' → ObjsOk σ') ∧ (evalS P f s env repl σ = .ok r σ' → ObjsOk σ') :=
  ⟨fun h => (evalE_ext P h).objs_nodup hok, fun h => (evalS_ext P h).objs_nodup hok⟩

/-- in particular in every store a program run reaches (the initial store has no objects) -/
theorem program_objects_wellformed (P : Platform) (fuel : Nat) (prog : List Stmt) (repl : Bool) (input : List Char) (σ' : Store)
    (h : interpret P fuel prog repl input = .ok () σ') : ObjsOk σ' :=
  (interpret_ext P h).objs_nodup (by intro i ps hi; simp [initStore] at hi)

/-- hence `অব্জেক্ট_কি` lists each property of a well-formed object exactly once: the listing has no
    repetition and contains exactly the object's keys -/
theorem keys_listing_exact (σ : Store) (r : Nat) (hok : ObjsOk σ) :
    (objKeys σ r).Nodup ∧ ∀ k, k ∈ objKeys σ r ↔ ((objOf σ r).lookup k).isSome = true := by
  have hnd : ((objOf σ r).map (·.1)).Nodup := Ext.objsOk_getD hok r
  have hperm : (objKeys σ r).Perm ((objOf σ r).map (·.1)) := List.mergeSort_perm _ _
  refine ⟨hperm.nodup_iff.mpr hnd, fun k => ?_⟩
  rw [hperm.mem_iff, ListAux.mem_keys_iff]

end Borno.Props.C12
