import BornoModel.Lemmas.EvalInv
/-! # C03 — names resolve through nested block scopes; shadowing and lifetime follow blocks -/
namespace Borno.Props.C03

/-- a name denotes the binding of the innermost scope that has one: the lookup tries the frame
    itself and only then its parent -/
theorem get_innermost_first (σ : Store) (n : Name) (f env : Nat) (fr : Frame) (h : σ.envs[env]? = some fr) :
    σ.getGo n (f + 1) env =
      match fr.vars.lookup n with
      | some v => some v
      | none => (match fr.parent with
                 | some p => σ.getGo n f p
                 | none => none) := by
  rw [Store.getGo]; simp only [h]
  cases List.lookup n fr.vars with
  | some v => rfl
  | none => cases fr.parent <;> rfl

/-- an assignment updates exactly the binding a read at the same point would return: `find` and `get`
    walk the same chain and stop at the same frame -/
theorem find_agrees_with_get (σ : Store) (n : Name) : ∀ (f env : Nat),
    (σ.findGo n f env).isSome = (σ.getGo n f env).isSome ∧
    (∀ fr, σ.findGo n f env = some fr → ∃ frame, σ.envs[fr]? = some frame ∧ frame.vars.lookup n = σ.getGo n f env) := by
  intro f
  induction f with
  | zero => intro env; exact ⟨rfl, nofun⟩
  | succ f ih =>
    intro env
    rw [Store.findGo, Store.getGo]
    cases henv : σ.envs[env]? with
    | none => exact ⟨rfl, nofun⟩
    | some fr =>
      dsimp only
      cases hl : fr.vars.lookup n with
      | some v => exact ⟨rfl, fun _ h => by cases h; exact ⟨fr, henv, hl⟩⟩
      | none =>
        cases fr.parent with
        | none => exact ⟨rfl, nofun⟩
        | some p => exact ih p

/-- a declaration defines in the current frame only: every other frame is untouched, and in the
    current one only the declared name changes -/
theorem define_only_innermost (σ : Store) (env : Nat) (n : Name) (v : Val) :
    (∀ e, e ≠ env → (σ.define env n v).envs[e]? = σ.envs[e]?) ∧
    (σ.define env n v).envs.length = σ.envs.length ∧
    (∀ fr, σ.envs[env]? = some fr →
      (σ.define env n v).envs[env]? = some { fr with vars := upsert n v fr.vars }) ∧
    (σ.define env n v).arrs = σ.arrs ∧ (σ.define env n v).objs = σ.objs ∧ (σ.define env n v).out = σ.out := by
  unfold Store.define
  cases h : σ.envs[env]? with
  | none => simp
  | some fr =>
    refine ⟨?_, by simp, ?_, rfl, rfl, rfl⟩
    · intro e he; simp [Ne.symm he]
    · intro fr' hfr'
      have hlt : env < σ.envs.length := by
        rcases List.getElem?_eq_some_iff.mp h with ⟨hlt, _⟩; exact hlt
      cases hfr'
      simp [hlt]

/-- `ধরি` of a name already bound in the *same* scope is a runtime error; bindings of outer scopes
    do not count (shadowing is allowed) -/
theorem redeclare_same_scope_error (P : Platform) (f : Nat) (d : VarDecl) (env : Nat) (repl : Bool) (σ : Store) (w : Val)
    (h0 : σ.hadError = false) (hi : d.init = none) (hh : σ.getHere env d.name = some w) :
    ∃ m, evalS P (f + 1) (.var d) env repl σ = .ok (.nil, .none) (σ.rte m d.line) := by
  rw [evalS, guardErr_ok h0, hi, ER.seq_ok, guardErr_ok h0, hh]
  exact ⟨_, rfl⟩

theorem declare_fresh_name (P : Platform) (f : Nat) (d : VarDecl) (env : Nat) (repl : Bool) (σ : Store)
    (h0 : σ.hadError = false) (hi : d.init = none) (hh : σ.getHere env d.name = none) :
    evalS P (f + 1) (.var d) env repl σ = .ok (.nil, .none) (σ.define env d.name .nil) := by
  rw [evalS, guardErr_ok h0, hi, ER.seq_ok, guardErr_ok h0, hh]; rfl

/-- reading a name with no visible binding, and assigning to one, are runtime errors -/
theorem unbound_read_error (P : Platform) (f : Nat) (n : Name) (line env : Nat) (repl : Bool) (σ : Store)
    (h0 : σ.hadError = false) (hg : σ.get env n = none) :
    ∃ m, evalE P (f + 1) (.ident n line) env repl σ = .ok (.nil, .none) (σ.rte m line) := by
  rw [evalE, guardErr_ok h0, hg]
  exact ⟨_, rfl⟩

theorem unbound_assign_error (P : Platform) (f : Nat) (n : Name) (nl line env : Nat) (v : Expr) (repl : Bool) (σ σ1 : Store) (x : Val)
    (h0 : σ.hadError = false) (hv : evalE P f v env repl σ = .ok (x, .none) σ1) (h1 : σ1.hadError = false)
    (hf : σ1.find env n = none) :
    ∃ m, evalE P (f + 1) (.assign n nl v line) env repl σ = .ok (x, .none) (σ1.rte m nl) := by
  rw [evalE, guardErr_ok h0, hv, ER.seq_ok, guardErr_ok h1, hf]
  exact ⟨_, rfl⟩

/-- a block runs in a fresh child scope of the current one; the scope's frame is never referred to
    again by the enclosing code (its index is not returned) -/
theorem block_fresh_scope (P : Platform) (f : Nat) (ss : List Stmt) (env : Nat) (repl : Bool) (σ : Store) (h0 : σ.hadError = false) :
    evalS P (f + 1) (.block ss) env repl σ =
      evalBlock P f ss σ.envs.length repl { σ with envs := σ.envs ++ [⟨[], some env⟩] } := by
  rw [evalS, guardErr_ok h0]; rfl

/-- a `ফর` statement gets one fresh scope shared by initializer, condition, increment and body -/
theorem for_scope_shared (P : Platform) (f : Nat) (c : Option Expr) (inc : Option Expr) (b : Stmt) (env : Nat) (repl : Bool) (σ : Store)
    (h0 : σ.hadError = false) :
    evalS P (f + 1) (.forS none c inc b) env repl σ =
      forLoop P f (forCond c) inc b σ.envs.length repl { σ with envs := σ.envs ++ [⟨[], some env⟩] } := by
  rw [evalS, guardErr_ok h0]; rfl

/-- user code runs in a child of the frame that holds the built-ins -/
theorem program_scope_under_globals (input : List Char) :
    (initStore input).envs[1]? = some ⟨[], some 0⟩ ∧
    (∃ g, (initStore input).envs[0]? = some g ∧ g.parent = none ∧ g.vars.map (·.1) = Expect.natives.map (·.1)) := by
  refine ⟨rfl, _, rfl, rfl, ?_⟩
  simp [List.map_map, Function.comp_def]

/-- **scope frames are stable**: across any evaluation every existing scope keeps its enclosing scope
    (the chain a name is resolved through never changes) and keeps every name it has (a binding is
    never removed; it can only be updated) -/
theorem frames_stable (P : Platform) (f : Nat) (s : Stmt) (env : Nat) (repl : Bool) (σ σ' : Store) (r : Val × Signal)
    (h : evalS P f s env repl σ = .ok r σ') (i : Nat) (fr : Frame) (hfr : σ.envs[i]? = some fr) :
    ∃ fr', σ'.envs[i]? = some fr' ∧ fr'.parent = fr.parent ∧
      ∀ n, (fr.vars.lookup n).isSome = true → (fr'.vars.lookup n).isSome = true :=
  (evalS_ext P h).env_keep i fr hfr

end Borno.Props.C03
