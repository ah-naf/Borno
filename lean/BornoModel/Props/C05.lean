import BornoModel.Lemmas.Signals
/-! # C05 — branches and loops run exactly the arms and iterations their conditions dictate -/
namespace Borno.Props.C05

section
variable (P : Platform)

/-- `যদি/নাহয়` runs exactly one arm, or none, chosen by the truthiness of its condition -/
theorem if_runs_exactly_one_arm (f : Nat) (c : Expr) (t : Stmt) (e : Option Stmt) (env : Nat) (repl : Bool)
    (σ σ1 : Store) (cv : Val) (h0 : σ.hadError = false) (hc : evalE P f c env repl σ = .ok (cv, .none) σ1) :
    evalS P (f + 1) (.ifS c t e) env repl σ =
      if truthy cv then
        (match evalS P f t env repl σ1 with
         | .ok (_, sig) σ2 => .ok (.nil, sig) σ2
         | .abn x => .abn x)
      else
        (match e with
         | some el =>
           (match evalS P f el env repl σ1 with
            | .ok (_, sig) σ2 => .ok (.nil, sig) σ2
            | .abn x => .abn x)
         | none => .ok (.nil, .none) σ1) := by
  rw [evalS, guardErr_ok h0, hc, ER.seq_ok]
  split
  · cases evalS P f t env repl σ1 <;> rfl
  · cases e with
    | none => rfl
    | some el => dsimp only; cases evalS P f el env repl σ1 <;> rfl

/-- `যতক্ষণ`: a falsy condition ends the loop; otherwise the body runs and then the whole loop again
    (break leaves this loop only, continue goes on to the next test, return leaves the function) -/
theorem while_unfold (f : Nat) (c : Expr) (b : Stmt) (env : Nat) (repl : Bool) (σ σ1 : Store) (cv : Val)
    (hc : evalE P f c env repl σ = .ok (cv, .none) σ1) :
    whileLoop P (f + 1) c b env repl σ =
      if truthy cv then
        (match evalS P f b env repl σ1 with
         | .ok (_, .brk _) σ2 => .ok (.nil, .none) σ2
         | .ok (_, .ret l v) σ2 => .ok (.nil, .ret l v) σ2
         | .ok (_, .cont _) σ2 => whileLoop P f c b env repl σ2
         | .ok (_, .none) σ2 => whileLoop P f c b env repl σ2
         | .abn x => .abn x)
      else .ok (.nil, .none) σ1 := by
  rw [whileLoop, hc, ER.seq_ok]
  cases truthy cv
  · rfl
  · cases evalS P f b env repl σ1 with
    | abn x => rfl
    | ok p σ2 => obtain ⟨v, sig⟩ := p; cases sig <;> rfl

/-- `ফর`: condition, body, increment, in that order; continue still runs the increment; break does not -/
theorem for_unfold (f : Nat) (c ie : Expr) (b : Stmt) (env : Nat) (repl : Bool) (σ σ1 σ2 : Store) (cv bv : Val) (sig : Signal)
    (hc : evalE P f c env repl σ = .ok (cv, .none) σ1) (ht : truthy cv = true)
    (hb : evalS P f b env repl σ1 = .ok (bv, sig) σ2) :
    forLoop P (f + 1) c (some ie) b env repl σ =
      match sig with
      | .brk _ => .ok (.nil, .none) σ2
      | .ret l v => .ok (.nil, .ret l v) σ2
      | _ =>
        (match evalE P f ie env repl σ2 with
         | .ok (_, sig3) σ3 => if sig3 ≠ .none then .ok (.nil, sig3) σ3 else forLoop P f c (some ie) b env repl σ3
         | .abn x => .abn x) := by
  rw [forLoop, hc, ER.seq_ok, ht, if_neg (by decide)]; simp only [hb, Res.bind_ok]
  cases sig
  case brk | ret => rfl
  all_goals (dsimp only; cases evalE P f ie env repl σ2 <;> rfl)

/-- a falsy condition stops the `ফর` loop before the body or the increment run again -/
theorem for_stops_on_falsy (f : Nat) (c : Expr) (inc : Option Expr) (b : Stmt) (env : Nat) (repl : Bool) (σ σ1 : Store) (cv : Val)
    (hc : evalE P f c env repl σ = .ok (cv, .none) σ1) (ht : truthy cv = false) :
    forLoop P (f + 1) c inc b env repl σ = .ok (.nil, .none) σ1 := by
  rw [forLoop, hc, ER.seq_ok, ht]; rfl

/-- the initializer runs once, in the loop's own fresh scope, before the first test -/
theorem for_initializer_once (f : Nat) (i : Stmt) (c : Option Expr) (inc : Option Expr) (b : Stmt) (env : Nat) (repl : Bool)
    (σ σ2 : Store) (v : Val) (h0 : σ.hadError = false)
    (hi : evalS P f i σ.envs.length repl (σ.newEnv (some env)).1 = .ok (v, .none) σ2) :
    evalS P (f + 1) (.forS (some i) c inc b) env repl σ = forLoop P f (forCond c) inc b σ.envs.length repl σ2 := by
  rw [evalS, guardErr_ok h0, hi, ER.seq_ok]

/-- a `থামো`, `চালিয়ে_যাও` or `ফেরত` that reaches the top level is reported as a runtime error on its own line -/
theorem toplevel_signal_is_error (f : Nat) (s : Stmt) (ss : List Stmt) (env : Nat) (repl : Bool) (σ σ1 : Store) (v : Val) (sig : Signal)
    (hs : evalS P f s env repl σ = .ok (v, sig) σ1) (hsig : sig ≠ .none) :
    ∃ msg line, interpretLoop P (f + 1) (s :: ss) env repl σ = .ok () (σ1.rte msg line) ∧
      (sig = .brk line ∨ sig = .cont line ∨ ∃ x, sig = .ret line x) := by
  rw [interpretLoop, hs]
  cases sig with
  | none => exact absurd rfl hsig
  | brk l => exact ⟨_, l, rfl, Or.inl rfl⟩
  | cont l => exact ⟨_, l, rfl, Or.inr (Or.inl rfl)⟩
  | ret l x => exact ⟨_, l, rfl, Or.inr (Or.inr ⟨x, rfl⟩)⟩

/-- break and continue are signals carrying their line; a block passes them up untouched -/
theorem break_continue_signals (f : Nat) (line env : Nat) (repl : Bool) (σ : Store) (h0 : σ.hadError = false) :
    evalS P (f + 1) (.breakS line) env repl σ = .ok (.nil, .brk line) σ ∧
    evalS P (f + 1) (.continueS line) env repl σ = .ok (.nil, .cont line) σ := by
  constructor <;> rw [evalS, guardErr_ok h0]

/-- evaluating an expression — a condition, an increment, an argument, a call — never yields a
    `break`, `continue` or `return` signal: calls absorb `return`, built-ins yield none -/
theorem expressions_raise_no_signal (f : Nat) (e : Expr) (env : Nat) (repl : Bool) (σ σ' : Store) (v : Val) (sig : Signal)
    (h : evalE P f e env repl σ = .ok (v, sig) σ') : sig = .none :=
  evalE_noSig P f e env repl σ (v, sig) σ' h

/-- **`থামো` and `চালিয়ে_যাও` leave only the innermost enclosing loop**: whatever the body does, what
    leaves a `যতক্ষণ` statement or a `ফর` loop is no signal, or a `return` on its way to the call —
    never a `break` or `continue`, which therefore cannot reach an outer loop -/
theorem loops_absorb_break_and_continue (f : Nat) (c : Expr) (inc : Option Expr) (b : Stmt) (env : Nat) (repl : Bool)
    (σ σ' : Store) (v : Val) (sig : Signal) :
    (evalS P f (.whileS c b) env repl σ = .ok (v, sig) σ' → sig = .none ∨ ∃ l x, sig = .ret l x) ∧
    (forLoop P f c inc b env repl σ = .ok (v, sig) σ' → sig = .none ∨ ∃ l x, sig = .ret l x) := by
  constructor
  · intro h
    cases f with
    | zero => rw [evalS_zero] at h; cases h
    | succ f => rw [evalS] at h; exact sigIn_guard (.inl rfl) (whileLoop_sig P f c b env repl σ) (v, sig) σ' h
  · intro h; exact forLoop_sig P f c inc b env repl σ (v, sig) σ' h

/-- a `ফর` statement without a condition runs as if its condition were the literal `true` -/
theorem for_missing_condition_true : forCond none = .literal (.bool true) 0 ∧ ∀ e, forCond (some e) = e := ⟨rfl, fun _ => rfl⟩

end
end Borno.Props.C05
