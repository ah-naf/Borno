import BornoModel.Props.C09
import BornoModel.Lemmas.EvalInv
import BornoModel.Lemmas.CliEqs
/-! # C07 — no program can make the interpreter terminate abnormally

In the model every partial host operation of the Go code (index, slice, unchecked assertion,
`arguments[i]`) is an `Option`-valued step whose `none` becomes the outcome `Abn.panic`.  The
theorems show the guards in front of them suffice. -/
namespace Borno.Props.C07

/-- the lexer never reaches a partial operation, for any text -/
theorem lexer_no_panic (lm : Char → Bool) (hlm : lm '\n' = false) (src : List Char) : Lexer.scan lm src ≠ none := by
  obtain ⟨t, d, h⟩ := C09.scan_total lm hlm src
  rw [h]; simp

/-- **the parser never indexes past the end of the token list**: whatever the scanner returns ends in
    exactly one EOF token, and on such a list no parsing function — with any fuel — yields the
    panic outcome (the model's stand-in for Go's index-out-of-range) -/
theorem parser_no_panic (lm : Char → Bool) (hlm : lm '\n' = false) (src : List Char) (toks : List Token) (ds : List Diag)
    (hs : Lexer.scan lm src = some (toks, ds)) (f : Nat) : Parser.program f toks ≠ .abn .panic := by
  obtain ⟨body, rfl, _⟩ := C09.single_eof_last lm hlm src toks ds hs
  exact Parser.parse_no_panic f _ ⟨_, List.mem_append_right _ List.mem_cons_self, rfl⟩

/-- so the whole front end never panics, on any text -/
theorem front_end_no_panic (lm : Char → Bool) (hlm : lm '\n' = false) (src : List Char) :
    (Cli.frontEnd lm src).abnormal ≠ some .panic := by
  unfold Cli.frontEnd
  obtain ⟨toks, ds, hs⟩ := C09.scan_total lm hlm src
  simp only [hs]
  have hp := parser_no_panic lm hlm src toks ds hs (Parser.fuelFor toks)
  unfold Parser.parse
  cases hr : Parser.program (Parser.fuelFor toks) toks with
  | ok p r pd => simp
  | err pd => simp
  | abn a =>
    rw [hr] at hp
    simp only [ne_eq, Option.some.injEq]
    intro e; subst e; exact hp rfl

/-- operators are total functions into "value or reported error": `==` on any two values, shifts by any
    count, `%` and `/` by zero, all yield a value or an error message — there is no third outcome -/
theorem operators_total (P : Platform) (σ : Store) (op : TT) (a b : Val) :
    (∃ v, binop P σ op a b = .ok v) ∨ (∃ m, binop P σ op a b = .error m) := by
  cases binop P σ op a b with
  | ok v => exact Or.inl ⟨v, rfl⟩
  | error m => exact Or.inr ⟨m, rfl⟩

/-- the bounds test in front of `array[index]` guarantees the element exists -/
theorem index_guarded (σ : Store) (a iv : Val) (msg : String) (r k : Nat) (h : checkIndex σ a iv msg = .ok (r, k)) :
    ∃ v, (σ.arrs[r]?.getD [])[k]? = some v :=
  checkIndex_guard h

/-- so an indexed read never panics once both operands are evaluated -/
theorem array_access_no_panic (P : Platform) (f : Nat) (a i : Expr) (line env : Nat) (repl : Bool)
    (σ σ1 σ2 : Store) (av iv : Val) (h0 : σ.hadError = false)
    (ha : evalE P f a env repl σ = .ok (av, .none) σ1) (hi : evalE P f i env repl σ1 = .ok (iv, .none) σ2) :
    evalE P (f + 1) (.arrayAccess a i line) env repl σ ≠ .abn .panic := by
  rw [evalE, guardErr_ok h0, ha, ER.seq_ok, hi, ER.seq_ok]
  split
  · simp [nilOk]
  · rename_i r k hc
    obtain ⟨v, hv⟩ := index_guarded σ2 av iv _ r k hc
    simp [hv]

/-- the arity test in front of a call guarantees `arguments[i]` exists for every parameter -/
theorem evalList_length (P : Platform) : ∀ (f : Nat) (es : List Expr) (env : Nat) (repl : Bool) (σ σ' : Store) (vs : List Val),
    evalList P f es env repl σ = .ok (vs, .none) σ' → vs.length = es.length :=
  Borno.evalList_length P

theorem call_binding_no_panic (P : Platform) (f : Nat) (id : Nat) (args : List Val) (σ : Store) (cl : Closure)
    (hcl : σ.funs[id]? = some cl) (hn : args.length = cl.params.length)
    (hbody : ∀ env σ', runBody P f cl.body env σ' ≠ .abn .panic) :
    callFn P (f + 1) id args σ ≠ .abn .panic := by
  rw [callFn_succ P f hcl (Nat.le_of_eq hn.symm)]
  cases hx : runBody P f cl.body _ _ with
  | ok v σ4 => simp
  | abn x => intro h; cases h; exact hbody _ _ hx

/-- every built-in validates the number and the kinds of its arguments before using them: its outcome is
    a value or an `error` (reported by the caller as "Function call failed: …"), never a panic -/
theorem natives_total (P : Platform) (n : Expect.Native) (args : List Val) (σ : Store) :
    (∃ v, (callNative P n args σ).2 = .ok v) ∨ (∃ m, (callNative P n args σ).2 = .error m) := by
  cases (callNative P n args σ).2 with
  | ok v => exact Or.inl ⟨v, rfl⟩
  | error m => exact Or.inr ⟨m, rfl⟩

/-- **no abnormal termination of the evaluator**: for every program, every fuel, every input, every
    platform, running the program never reaches a partial host operation — it returns, or the model's
    own fuel bound is hit (the Go code is still running / recursing), or a cyclic value is printed
    (known finding) -/
theorem eval_no_panic (P : Platform) (fuel : Nat) (prog : List Stmt) (repl : Bool) (input : List Char) :
    interpret P fuel prog repl input ≠ .abn .panic :=
  (sat_interpretLoop P fuel prog 1 repl (initStore input)).ne_panic

/-- **no text whatever makes the pipeline panic**: `run` (scan, parse, interpret) on any source text,
    with any stdin, platform and fuel, ends with its outputs, or out of the model's fuel, or in the
    cyclic-print finding — never in the panic outcome.  (Scanner total, parser never past EOF,
    a rejected text always carries a diagnostic, evaluator invariant.) -/
theorem pipeline_no_panic (P : Platform) (hlm : P.lm '\n' = false) (fuel : Nat) (src : List Char) (repl : Bool) (input : List Char) :
    (Cli.run P fuel src repl input).abnormal ≠ some .panic := by
  have hfe := front_end_no_panic P.lm hlm src
  rcases Cli.frontEnd_cases P.lm src with ⟨a, ha⟩ | hd | ⟨prog, h⟩
  · rw [Cli.run_abnormal ha]
    exact ha ▸ hfe
  · rw [Cli.run_rejected hd]
    exact hfe
  · rw [Cli.run_accepted h]
    cases hi : interpret P fuel prog repl input with
    | ok u σ => nofun
    | abn a =>
      intro e
      cases e
      exact eval_no_panic P fuel prog repl input hi

/-- the same for any expression or statement evaluated in any store (not only whole programs) -/
theorem eval_no_panic_anywhere (P : Platform) (f : Nat) (e : Expr) (s : Stmt) (env : Nat) (repl : Bool) (σ : Store) :
    evalE P f e env repl σ ≠ .abn .panic ∧ evalS P f s env repl σ ≠ .abn .panic :=
  ⟨((allSat P f).e e env repl σ).ne_panic, ((allSat P f).s s env repl σ).ne_panic⟩

/-- non-vacuity: the comparison and the shift that crashed the unrepaired interpreter -/
example (P : Platform) (σ : Store) : binop P σ .EQUAL_EQUAL (.str ['a']) (.str ['a']) = .ok (.bool true) := by
  simp [binop, valEq]

end Borno.Props.C07
