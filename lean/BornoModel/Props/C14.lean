import BornoModel.Lemmas.EvalEqs
/-! # C14 — operands are evaluated once, left to right; logic short-circuits on truthiness -/
namespace Borno.Props.C14

/-- exactly nil, false, ±0 and the empty string are falsy -/
theorem truthy_table (v : Val) :
    truthy v = false ↔ (v = .nil ∨ v = .bool false ∨ (∃ x, v = .num x ∧ x.isZero = true) ∨ v = .str []) := by
  cases v <;> simp [truthy]

/-- NaN, empty arrays and objects, and functions are truthy -/
theorem truthy_examples (r : Nat) (n : Expect.Native) :
    truthy (.num .nan) = true ∧ truthy (.arr r) = true ∧ truthy (.obj r) = true ∧ truthy (.fn r) = true ∧
    truthy (.native n) = true ∧ truthy (.num (F64.zero true)) = false ∧ truthy (.num (.inf true)) = true := by
  simp [truthy, F64.isZero, F64.zero]

/-- `!` uses the same truthiness -/
theorem bang_is_not_truthy (v : Val) : unop .BANG v = .ok (.bool (!truthy v)) := rfl

section
variable (P : Platform)

/-- `বা`: a truthy left operand is the result and the right operand is not evaluated; a falsy one
    hands over to the right operand, evaluated in the store the left one produced -/
theorem or_short_circuit (f : Nat) (l r : Expr) (env : Nat) (repl : Bool) (σ σ1 : Store) (a : Val)
    (h0 : σ.hadError = false) (hl : evalE P f l env repl σ = .ok (a, .none) σ1) :
    evalE P (f + 1) (.logical l .LOGICAL_OR r) env repl σ =
      if truthy a then .ok (a, .none) σ1 else evalE P f r env repl σ1 := by
  rw [evalE, guardErr_ok h0, hl, ER.seq_ok, if_pos rfl]

theorem and_short_circuit (f : Nat) (l r : Expr) (env : Nat) (repl : Bool) (σ σ1 : Store) (a : Val)
    (h0 : σ.hadError = false) (hl : evalE P f l env repl σ = .ok (a, .none) σ1) :
    evalE P (f + 1) (.logical l .LOGICAL_AND r) env repl σ =
      if truthy a then evalE P f r env repl σ1 else .ok (a, .none) σ1 := by
  rw [evalE, guardErr_ok h0, hl, ER.seq_ok, if_neg (by decide)]
  cases truthy a <;> rfl

/-- binary operators: left operand, then the right operand in the store the left one produced,
    then the operator — each operand's evaluation occurs exactly once in the composite -/
theorem binary_left_then_right (f : Nat) (l r : Expr) (op : TT) (line env : Nat) (repl : Bool)
    (σ σ1 σ2 : Store) (a b : Val)
    (h0 : σ.hadError = false)
    (hl : evalE P f l env repl σ = .ok (a, .none) σ1) (h1 : σ1.hadError = false)
    (hr : evalE P f r env repl σ1 = .ok (b, .none) σ2) (h2 : σ2.hadError = false) :
    evalE P (f + 1) (.binary l op line r) env repl σ =
      match binop P σ2 op a b with
      | .ok v => .ok (v, .none) σ2
      | .error m => .ok (.nil, .none) (σ2.rte m line) := by
  rw [evalE, guardErr_ok h0, hl, ER.seq_ok, guardErr_ok h1, hr, ER.seq_ok, guardErr_ok h2]
  cases binop P σ2 op a b <;> rfl

/-- plain assignment: the value first, then the store -/
theorem assign_value_then_store (f : Nat) (n : Name) (nl line env : Nat) (v : Expr) (repl : Bool)
    (σ σ1 : Store) (x : Val) (fr : Nat)
    (h0 : σ.hadError = false) (hv : evalE P f v env repl σ = .ok (x, .none) σ1) (h1 : σ1.hadError = false)
    (hf : σ1.find env n = some fr) :
    evalE P (f + 1) (.assign n nl v line) env repl σ = .ok (x, .none) (σ1.define fr n x) := by
  rw [evalE, guardErr_ok h0, hv, ER.seq_ok, guardErr_ok h1, hf]

/-- indexed store: array, then index, then value, then the store -/
theorem index_store_order (f : Nat) (a i v : Expr) (line env : Nat) (repl : Bool)
    (σ σ1 σ2 σ3 : Store) (av iv x : Val)
    (h0 : σ.hadError = false)
    (ha : evalE P f a env repl σ = .ok (av, .none) σ1)
    (hi : evalE P f i env repl σ1 = .ok (iv, .none) σ2)
    (hv : evalE P f v env repl σ2 = .ok (x, .none) σ3) :
    evalE P (f + 1) (.arrayAssign a i v line) env repl σ =
      match checkIndex σ3 av iv "Invalid array assignment. Not an array." with
      | .error m => .ok (.nil, .none) (σ3.rte m line)
      | .ok (r, k) => .ok (x, .none) { σ3 with arrs := σ3.arrs.set r ((σ3.arrs[r]?.getD []).set k x) } := by
  rw [evalE, guardErr_ok h0, ha, ER.seq_ok, hi, ER.seq_ok, hv, ER.seq_ok]
  cases checkIndex σ3 av iv "Invalid array assignment. Not an array." <;> rfl

/-- elements and arguments are evaluated left to right, each in the store its predecessor produced -/
theorem list_left_to_right (f : Nat) (e : Expr) (es : List Expr) (env : Nat) (repl : Bool)
    (σ σ1 : Store) (v : Val) (he : evalE P f e env repl σ = .ok (v, .none) σ1) :
    evalList P (f + 1) (e :: es) env repl σ =
      match evalList P f es env repl σ1 with
      | .ok (vs, sig) σ2 => .ok (v :: vs, sig) σ2
      | .abn x => .abn x := by
  rw [evalList, he, Res.bind_ok, if_neg fun h => h rfl]
  cases evalList P f es env repl σ1 <;> rfl

/-- object initialisers likewise, in the listed (source) order -/
theorem props_in_source_order (f : Nat) (k : Name) (e : Expr) (ps : List (Name × Expr)) (env : Nat) (repl : Bool)
    (σ σ1 : Store) (v : Val) (he : evalE P f e env repl σ = .ok (v, .none) σ1) :
    evalProps P (f + 1) ((k, e) :: ps) env repl σ =
      match evalProps P f ps env repl σ1 with
      | .ok (kvs, sig) σ2 => .ok ((k, v) :: kvs, sig) σ2
      | .abn x => .abn x := by
  rw [evalProps, he, Res.bind_ok, if_neg fun h => h rfl]
  cases evalProps P f ps env repl σ1 <;> rfl

/-- grouping is transparent: parentheses evaluate to their content -/
theorem grouping_transparent (f : Nat) (e : Expr) (line env : Nat) (repl : Bool) (σ : Store) (h0 : σ.hadError = false) :
    evalE P (f + 1) (.grouping e line) env repl σ = evalE P f e env repl σ :=
  evalE_grouping P f e line env repl h0

end
end Borno.Props.C14
