import BornoModel.Lemmas.Interchange
/-! # Interchange inside object-literal initialisers -/
namespace Borno
variable (P : Platform)

inductive RelP (R : Expr → Expr → Prop) : List (Name × Expr) → List (Name × Expr) → Prop
  | nil : RelP R [] []
  | cons {k : Name} {e e' : Expr} {ps ps' : List (Name × Expr)} : R e e' → RelP R ps ps' → RelP R ((k, e) :: ps) ((k, e') :: ps')

theorem relP_upsert {R : Expr → Expr → Prop} (k : Name) {e e' : Expr} (he : R e e') {acc acc' : List (Name × Expr)}
    (h : RelP R acc acc') : RelP R (upsert k e acc) (upsert k e' acc') := by
  induction h with
  | nil => exact .cons he .nil
  | cons hx hps ih =>
    rw [upsert, upsert]
    split
    · exact .cons he hps
    · exact .cons hx ih

theorem relP_foldl {R : Expr → Expr → Prop} {ps ps' : List (Name × Expr)} (h : RelP R ps ps') :
    ∀ {acc acc' : List (Name × Expr)}, RelP R acc acc' →
      RelP R (ps.foldl (fun a p => upsert p.1 p.2 a) acc) (ps'.foldl (fun a p => upsert p.1 p.2 a) acc') := by
  induction h with
  | nil => exact fun ha => ha
  | cons he _ ih => exact fun ha => ih (relP_upsert _ he ha)

theorem relP_effective {R : Expr → Expr → Prop} {ps ps' : List (Name × Expr)} (h : RelP R ps ps') :
    RelP R (effectiveProps ps) (effectiveProps ps') := relP_foldl h .nil

theorem evalProps_ev2 {ps ps' : List (Name × Expr)} (h : RelP (EvEq P) ps ps') (env : Nat) (repl : Bool) :
    ∀ σ, Ev2 (fun F => evalProps P F ps env repl σ) (fun F => evalProps P F ps' env repl σ) := by
  induction h with
  | nil => intro σ; exact Ev2.refl _
  | @cons k e e' ps ps' he _ ih =>
    intro σ
    refine ev2_of_succ ?_
    simp only [evalProps]
    exact ev2_bind (he env repl σ) (evalE_le P) (fun _ σ1 =>
      ev2_ite (Ev2.refl _) (ev2_bind (ih σ1) (fun f => (mono P f).p _ _ _ _) (fun _ _ => Ev2.refl _)))

theorem cong_objectLit {ps ps' : List (Name × Expr)} (tc : Bool) (h : RelP (EvEq P) ps ps') : EvEq P (.objectLit ps tc) (.objectLit ps' tc) := by
  refine evEq_of_succ P (fun env repl σ => ?_); simp only [evalE]; refine ev2_guard ?_
  exact ev2_bind (evalProps_ev2 P (relP_effective h) env repl σ) (fun f => (mono P f).p _ _ _ _) (fun _ _ => Ev2.refl _)

theorem RelP.refl_ev : ∀ (ps : List (Name × Expr)), RelP (EvEq P) ps ps
  | [] => .nil
  | (_, e) :: ps => .cons (EvEq.refl P e) (RelP.refl_ev ps)

theorem RelP.hole (pre post : List (Name × Expr)) (k : Name) {e e' : Expr} (h : EvEq P e e') :
    RelP (EvEq P) (pre ++ (k, e) :: post) (pre ++ (k, e') :: post) := by
  induction pre with
  | nil => exact .cons h (RelP.refl_ev P post)
  | cons x pre ih => exact .cons (EvEq.refl P x.2) ih

end Borno
