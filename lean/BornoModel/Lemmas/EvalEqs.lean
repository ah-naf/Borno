import BornoModel.Lemmas.Plumbing
/-! # Equations of the evaluator functions

What each function answers without fuel, and three functions that are instances of three others: a `যতক্ষণ` loop is a
`ফর` loop without increment, a declaration list is the block of its declarations, and the initialisers of an object
literal are evaluated as the list of their expressions, the keys being attached afterwards. -/
namespace Borno
variable (P : Platform)

theorem evalE_zero (e : Expr) (env : Nat) (repl : Bool) (σ : Store) : evalE P 0 e env repl σ = .abn .fuel := by
  rw [evalE]

theorem evalList_zero (es : List Expr) (env : Nat) (repl : Bool) (σ : Store) : evalList P 0 es env repl σ = .abn .fuel := by
  rw [evalList]

theorem evalProps_zero (ps : List (Name × Expr)) (env : Nat) (repl : Bool) (σ : Store) :
    evalProps P 0 ps env repl σ = .abn .fuel := by
  rw [evalProps]

theorem callFn_zero (id : Nat) (args : List Val) (σ : Store) : callFn P 0 id args σ = .abn .fuel := by
  rw [callFn]

theorem callFn_succ (f : Nat) {id : Nat} {args : List Val} {σ : Store} {cl : Closure} (hcl : σ.funs[id]? = some cl)
    (hlen : cl.params.length ≤ args.length) :
    callFn P (f + 1) id args σ =
      (runBody P f cl.body σ.envs.length
        ((cl.params.zip args).foldl (fun s (p : Name × Val) => s.define σ.envs.length p.1 p.2)
          ((σ.newEnv (some cl.env)).1.define σ.envs.length cl.name (.fn id)))).bind fun v σ4 => .ok (v, .none) σ4 := by
  rw [callFn]; simp only [hcl, Nat.not_lt.mpr hlen, if_false]

theorem runBody_zero (ss : List Stmt) (env : Nat) (σ : Store) : runBody P 0 ss env σ = .abn .fuel := by
  rw [runBody]

theorem evalBlock_zero (ss : List Stmt) (env : Nat) (repl : Bool) (σ : Store) : evalBlock P 0 ss env repl σ = .abn .fuel := by
  rw [evalBlock]

theorem evalDecls_zero (ds : List VarDecl) (env : Nat) (repl : Bool) (σ : Store) : evalDecls P 0 ds env repl σ = .abn .fuel := by
  rw [evalDecls]

theorem whileLoop_zero (c : Expr) (b : Stmt) (env : Nat) (repl : Bool) (σ : Store) : whileLoop P 0 c b env repl σ = .abn .fuel := by
  rw [whileLoop]

theorem forLoop_zero (c : Expr) (inc : Option Expr) (b : Stmt) (env : Nat) (repl : Bool) (σ : Store) :
    forLoop P 0 c inc b env repl σ = .abn .fuel := by
  rw [forLoop]

theorem evalS_zero (s : Stmt) (env : Nat) (repl : Bool) (σ : Store) : evalS P 0 s env repl σ = .abn .fuel := by
  rw [evalS]

theorem interpretLoop_zero (ss : List Stmt) (env : Nat) (repl : Bool) (σ : Store) :
    interpretLoop P 0 ss env repl σ = .abn .fuel := by
  rw [interpretLoop]

/-- with the flag set, every node returns at once, the store untouched: both functions start with `guardErr σ` -/
theorem evalE_err (f : Nat) (e : Expr) (env : Nat) (repl : Bool) {σ : Store} (h : σ.hadError = true) :
    evalE P (f + 1) e env repl σ = nilOk σ := by
  unfold evalE; exact guardErr_err h _

theorem evalS_err (f : Nat) (s : Stmt) (env : Nat) (repl : Bool) {σ : Store} (h : σ.hadError = true) :
    evalS P (f + 1) s env repl σ = nilOk σ := by
  unfold evalS; exact guardErr_err h _

theorem evalE_grouping (f : Nat) (e : Expr) (l env : Nat) (repl : Bool) {σ : Store} (h : σ.hadError = false) :
    evalE P (f + 1) (.grouping e l) env repl σ = evalE P f e env repl σ := by
  rw [evalE.eq_def]; exact guardErr_ok h _

theorem whileLoop_eq_forLoop (c : Expr) (b : Stmt) (env : Nat) (repl : Bool) :
    ∀ f σ, whileLoop P f c b env repl σ = forLoop P f c none b env repl σ
  | 0, _ => by rw [whileLoop_zero, forLoop_zero]
  | f + 1, σ => by
    rw [whileLoop, forLoop]
    simp only [whileLoop_eq_forLoop c b env repl f]

theorem evalDecls_eq_evalBlock (env : Nat) (repl : Bool) :
    ∀ f ds σ, evalDecls P f ds env repl σ = evalBlock P f (ds.map .var) env repl σ
  | 0, _, _ => by rw [evalDecls_zero, evalBlock_zero]
  | _ + 1, [], _ => by rw [evalDecls, List.map_nil, evalBlock]
  | f + 1, d :: ds, σ => by
    rw [evalDecls, List.map_cons, evalBlock]
    simp only [evalDecls_eq_evalBlock env repl f]

/-- a signal cuts the value list short, and `zip` cuts the keys with it -/
theorem evalProps_eq_evalList (env : Nat) (repl : Bool) :
    ∀ f ps σ, evalProps P f ps env repl σ =
      (evalList P f (ps.map (·.2)) env repl σ).bind fun q σ2 => .ok ((ps.map (·.1)).zip q.1, q.2) σ2
  | 0, _, _ => by rw [evalProps_zero, evalList_zero]; rfl
  | _ + 1, [], _ => by rw [evalProps, List.map_nil, evalList]; rfl
  | f + 1, ke :: ps, σ => by
    rw [evalProps, List.map_cons, evalList]
    simp only [evalProps_eq_evalList env repl f]
    cases evalE P f ke.2 env repl σ with
    | abn x => rfl
    | ok p σ1 =>
      rw [Res.bind_ok, Res.bind_ok]
      split
      · rfl
      · cases evalList P f (ps.map (·.2)) env repl σ1 <;> rfl

end Borno
