import BornoModel.Lemmas.FuelMono
/-! # Expressions that agree in every state are interchangeable in every expression context

`Ev2 A B`: two budget-indexed computations coincide from some budget on.  `EvEq e e'`, `EvL es es'`, `EvS s s'` say so
of the evaluations of two expressions, expression lists, statements in every scope and store (same value, signal,
store — or the same abnormal end).  `EvEq` is a congruence for every constructor of `Expr` (object literals: `InterchangeObj`). -/
namespace Borno
variable (P : Platform)

def Ev2 {α : Type} (A B : Nat → Res α) : Prop := ∃ F0, ∀ F, F0 ≤ F → A F = B F

theorem Ev2.refl {α : Type} (A : Nat → Res α) : Ev2 A A := ⟨0, fun _ _ => rfl⟩

theorem Ev2.symm {α : Type} {A B : Nat → Res α} (h : Ev2 A B) : Ev2 B A :=
  let ⟨F0, h0⟩ := h; ⟨F0, fun F hF => (h0 F hF).symm⟩

theorem Ev2.trans {α : Type} {A B C : Nat → Res α} (h1 : Ev2 A B) (h2 : Ev2 B C) : Ev2 A C :=
  let ⟨F1, g1⟩ := h1; let ⟨F2, g2⟩ := h2
  ⟨max F1 F2, fun F hF => (g1 F (Nat.max_le.1 hF).1).trans (g2 F (Nat.max_le.1 hF).2)⟩

theorem eventually_of_succ {p : Nat → Prop} (h : ∃ F0, ∀ F, F0 ≤ F → p (F + 1)) : ∃ F0, ∀ F, F0 ≤ F → p F := by
  obtain ⟨F0, h0⟩ := h
  refine ⟨F0 + 1, fun F hF => ?_⟩
  cases F with
  | zero => exact absurd hF (Nat.not_succ_le_zero F0)
  | succ F => exact h0 F (Nat.le_of_succ_le_succ hF)

theorem ev2_of_succ {α : Type} {A B : Nat → Res α} (h : Ev2 (fun F => A (F + 1)) (fun F => B (F + 1))) : Ev2 A B :=
  eventually_of_succ h

theorem settles_of_le {α : Type} {X : Nat → Res α} (h : ∀ f, (X f).le (X (f + 1))) : ∃ f r, ∀ F, f ≤ F → X F = r := by
  by_cases hh : ∀ F, X F = .abn .fuel
  · exact ⟨0, .abn .fuel, fun F _ => hh F⟩
  · obtain ⟨f, hf⟩ := Classical.not_forall.1 hh
    exact ⟨f, X f, fun F hF => stable_of_le h hF hf⟩

theorem ev2_shift {α : Type} {X : Nat → Res α} (h : ∀ f, (X f).le (X (f + 1))) : Ev2 X (fun F => X (F + 1)) :=
  let ⟨f, _, hr⟩ := settles_of_le h
  ⟨f, fun F hF => (hr F hF).trans (hr (F + 1) (Nat.le_succ_of_le hF)).symm⟩

theorem ev2_guard {σ : Store} {A B : Nat → ER} (h : Ev2 A B) : Ev2 (fun F => guardErr σ (A F)) (fun F => guardErr σ (B F)) :=
  let ⟨F0, h0⟩ := h
  ⟨F0, fun F hF => congrArg (guardErr σ) (h0 F hF)⟩

theorem ev2_ite {α : Type} {c : Prop} [Decidable c] {A A' B B' : Nat → Res α} (ha : Ev2 A A') (hb : Ev2 B B') :
    Ev2 (fun F => if c then A F else B F) (fun F => if c then A' F else B' F) := by
  split
  · exact ha
  · exact hb

/-- the continuations need only agree at the one result `X` settles on: that is what monotonicity of `X` is for -/
theorem ev2_bind {α β : Type} {X X' : Nat → Res α} {K K' : Nat → α → Store → Res β} (hX : Ev2 X X')
    (hS : ∀ f, (X f).le (X (f + 1))) (hK : ∀ a σ1, Ev2 (fun F => K F a σ1) (fun F => K' F a σ1)) :
    Ev2 (fun F => (X F).bind (K F)) (fun F => (X' F).bind (K' F)) := by
  obtain ⟨F1, h1⟩ := hX
  obtain ⟨f, r, hr⟩ := settles_of_le hS
  have hr' : Ev2 (fun F => r.bind (K F)) (fun F => r.bind (K' F)) := by
    cases r with
    | abn x => exact Ev2.refl _
    | ok a σ1 => exact hK a σ1
  obtain ⟨F2, h2⟩ := hr'
  refine ⟨max F1 (max f F2), fun F hF => ?_⟩
  rw [Nat.max_le, Nat.max_le] at hF
  show (X F).bind (K F) = (X' F).bind (K' F)
  rw [← h1 F hF.1, hr F hF.2.1]
  exact h2 F hF.2.2

theorem ev2_seq {X X' : Nat → ER} {K K' : Nat → Val → Store → ER} (hX : Ev2 X X') (hS : ∀ f, (X f).le (X (f + 1)))
    (hK : ∀ a σ1, Ev2 (fun F => K F a σ1) (fun F => K' F a σ1)) :
    Ev2 (fun F => (X F).seq (K F)) (fun F => (X' F).seq (K' F)) :=
  ev2_bind hX hS (fun p σ1 => ev2_ite (Ev2.refl _) (hK p.1 σ1))

def EvEq (e e' : Expr) : Prop :=
  ∀ env repl σ, ∃ F0, ∀ F, F0 ≤ F → evalE P F e env repl σ = evalE P F e' env repl σ

theorem EvEq.ev2 {e e' : Expr} (h : EvEq P e e') (env : Nat) (repl : Bool) (σ : Store) :
    Ev2 (fun F => evalE P F e env repl σ) (fun F => evalE P F e' env repl σ) := h env repl σ

theorem EvEq.refl (e : Expr) : EvEq P e e := fun _ _ _ => Ev2.refl _
theorem EvEq.symm {e e' : Expr} (h : EvEq P e e') : EvEq P e' e := fun env repl σ => (h.ev2 P env repl σ).symm
theorem EvEq.trans {a b c : Expr} (h1 : EvEq P a b) (h2 : EvEq P b c) : EvEq P a c := fun env repl σ =>
  (h1.ev2 P env repl σ).trans (h2 env repl σ)

theorem evEq_of_succ {e e' : Expr}
    (h : ∀ env repl σ, Ev2 (fun F => evalE P (F + 1) e env repl σ) (fun F => evalE P (F + 1) e' env repl σ)) : EvEq P e e' :=
  fun env repl σ => ev2_of_succ (h env repl σ)

/-- an evaluation either never answers, or answers the same from some budget on -/
theorem settles (e : Expr) (env : Nat) (repl : Bool) (σ : Store) :
    (∀ F, evalE P F e env repl σ = .abn .fuel) ∨ (∃ f r, ∀ F, f ≤ F → evalE P F e env repl σ = r) :=
  .inr (settles_of_le (evalE_le P))

theorem evEq_grouping (e : Expr) (l : Nat) : EvEq P (.grouping e l) e := by
  refine evEq_of_succ P (fun env repl σ => ?_)
  cases hs : σ.hadError with
  | true => simp only [evalE_err P _ _ env repl hs]; exact Ev2.refl _
  | false => simp only [evalE_grouping P _ e l env repl hs]; exact ev2_shift (evalE_le P)

theorem cong_grouping {e e' : Expr} (l : Nat) (h : EvEq P e e') : EvEq P (.grouping e l) (.grouping e' l) :=
  .trans P (evEq_grouping P e l) (.trans P h (.symm P (evEq_grouping P e' l)))

theorem cong_unary {e e' : Expr} (op : TT) (l : Nat) (h : EvEq P e e') : EvEq P (.unary op l e) (.unary op l e') := by
  refine evEq_of_succ P (fun env repl σ => ?_); simp only [evalE]; refine ev2_guard ?_
  exact ev2_seq (h env repl σ) (evalE_le P) (fun _ _ => Ev2.refl _)

theorem cong_binary {a a' r r' : Expr} (op : TT) (l : Nat) (ha : EvEq P a a') (hr : EvEq P r r') :
    EvEq P (.binary a op l r) (.binary a' op l r') := by
  refine evEq_of_succ P (fun env repl σ => ?_); simp only [evalE]; refine ev2_guard ?_
  exact ev2_seq (ha env repl σ) (evalE_le P) (fun _ σ1 =>
    ev2_guard (ev2_seq (hr env repl σ1) (evalE_le P) (fun _ _ => Ev2.refl _)))

theorem cong_logical {a a' r r' : Expr} (op : TT) (ha : EvEq P a a') (hr : EvEq P r r') :
    EvEq P (.logical a op r) (.logical a' op r') := by
  refine evEq_of_succ P (fun env repl σ => ?_); simp only [evalE]; refine ev2_guard ?_
  exact ev2_seq (ha env repl σ) (evalE_le P) (fun _ σ1 =>
    ev2_ite (ev2_ite (Ev2.refl _) (hr env repl σ1)) (ev2_ite (Ev2.refl _) (hr env repl σ1)))

theorem cong_assign (n : Name) (nl : Nat) {v v' : Expr} (l : Nat) (h : EvEq P v v') : EvEq P (.assign n nl v l) (.assign n nl v' l) := by
  refine evEq_of_succ P (fun env repl σ => ?_); simp only [evalE]; refine ev2_guard ?_
  exact ev2_seq (h env repl σ) (evalE_le P) (fun _ _ => Ev2.refl _)

theorem cong_arrayAccess {a a' i i' : Expr} (l : Nat) (ha : EvEq P a a') (hi : EvEq P i i') :
    EvEq P (.arrayAccess a i l) (.arrayAccess a' i' l) := by
  refine evEq_of_succ P (fun env repl σ => ?_); simp only [evalE]; refine ev2_guard ?_
  exact ev2_seq (ha env repl σ) (evalE_le P) (fun _ σ1 =>
    ev2_seq (hi env repl σ1) (evalE_le P) (fun _ _ => Ev2.refl _))

theorem cong_propAccess {o o' : Expr} (p : Name) (l : Nat) (h : EvEq P o o') : EvEq P (.propAccess o p l) (.propAccess o' p l) := by
  refine evEq_of_succ P (fun env repl σ => ?_); simp only [evalE]; refine ev2_guard ?_
  exact ev2_seq (h env repl σ) (evalE_le P) (fun _ _ => Ev2.refl _)

theorem cong_arrayAssign {a a' i i' v v' : Expr} (l : Nat) (ha : EvEq P a a') (hi : EvEq P i i') (hv : EvEq P v v') :
    EvEq P (.arrayAssign a i v l) (.arrayAssign a' i' v' l) := by
  refine evEq_of_succ P (fun env repl σ => ?_); simp only [evalE]; refine ev2_guard ?_
  exact ev2_seq (ha env repl σ) (evalE_le P) (fun _ σ1 => ev2_seq (hi env repl σ1) (evalE_le P) (fun _ σ2 =>
    ev2_seq (hv env repl σ2) (evalE_le P) (fun _ _ => Ev2.refl _)))

theorem cong_propAssign {o o' v v' : Expr} (p : Name) (l : Nat) (ho : EvEq P o o') (hv : EvEq P v v') :
    EvEq P (.propAssign o p v l) (.propAssign o' p v' l) := by
  refine evEq_of_succ P (fun env repl σ => ?_); simp only [evalE]; refine ev2_guard ?_
  refine ev2_seq (ho env repl σ) (evalE_le P) (fun ov σ1 => ?_)
  cases ov with
  | obj r => exact ev2_seq (hv env repl σ1) (evalE_le P) (fun _ _ => Ev2.refl _)
  | _ => exact Ev2.refl _

def EvL (es es' : List Expr) : Prop :=
  ∀ env repl σ, Ev2 (fun F => evalList P F es env repl σ) (fun F => evalList P F es' env repl σ)

theorem EvL.refl (es : List Expr) : EvL P es es := fun _ _ _ => Ev2.refl _

theorem EvL.cons {e e' : Expr} {es es' : List Expr} (h : EvEq P e e') (hs : EvL P es es') : EvL P (e :: es) (e' :: es') := by
  intro env repl σ
  refine ev2_of_succ ?_
  simp only [evalList]
  exact ev2_bind (h env repl σ) (evalE_le P) (fun _ σ1 =>
    ev2_ite (Ev2.refl _) (ev2_bind (hs env repl σ1) (evalList_le P) (fun _ _ => Ev2.refl _)))

theorem EvL.hole (pre post : List Expr) {e e' : Expr} (h : EvEq P e e') : EvL P (pre ++ e :: post) (pre ++ e' :: post) := by
  induction pre with
  | nil => exact EvL.cons P h (EvL.refl P post)
  | cons x pre ih => exact EvL.cons P (EvEq.refl P x) ih

theorem cong_arrayLit {es es' : List Expr} (h : EvL P es es') : EvEq P (.arrayLit es) (.arrayLit es') := by
  refine evEq_of_succ P (fun env repl σ => ?_); simp only [evalE]; refine ev2_guard ?_
  exact ev2_bind (h env repl σ) (evalList_le P) (fun _ _ => Ev2.refl _)

/-- `hl`: the arity test reads `args.length` before any argument is evaluated -/
theorem cong_call {c c' : Expr} (pl : Nat) {args args' : List Expr} (hc : EvEq P c c') (hl : args.length = args'.length)
    (h : EvL P args args') : EvEq P (.call c pl args) (.call c' pl args') := by
  refine evEq_of_succ P (fun env repl σ => ?_); simp only [evalE]; refine ev2_guard ?_
  refine ev2_seq (hc env repl σ) (evalE_le P) (fun cv σ1 => ?_)
  rw [hl]
  cases arityOf σ1 cv with
  | none => exact Ev2.refl _
  | some k => exact ev2_ite (Ev2.refl _) (ev2_bind (h env repl σ1) (evalList_le P) (fun _ _ => Ev2.refl _))

/-- an expression with one hole, in any operand, argument, element, subscript, callee, receiver or value position
    (object-literal initialisers are the one position left out: their evaluation order goes through `effectiveProps`) -/
inductive Ctx
  | hole
  | grouping (c : Ctx) (l : Nat)
  | unary (op : TT) (l : Nat) (c : Ctx)
  | binL (c : Ctx) (op : TT) (l : Nat) (r : Expr)
  | binR (a : Expr) (op : TT) (l : Nat) (c : Ctx)
  | logL (c : Ctx) (op : TT) (r : Expr)
  | logR (a : Expr) (op : TT) (c : Ctx)
  | callee (c : Ctx) (pl : Nat) (args : List Expr)
  | arg (f : Expr) (pl : Nat) (pre : List Expr) (c : Ctx) (post : List Expr)
  | elem (pre : List Expr) (c : Ctx) (post : List Expr)
  | accA (c : Ctx) (i : Expr) (l : Nat)
  | accI (a : Expr) (c : Ctx) (l : Nat)
  | propAcc (c : Ctx) (p : Name) (l : Nat)
  | assign (n : Name) (nl : Nat) (c : Ctx) (l : Nat)
  | aasA (c : Ctx) (i v : Expr) (l : Nat)
  | aasI (a : Expr) (c : Ctx) (v : Expr) (l : Nat)
  | aasV (a i : Expr) (c : Ctx) (l : Nat)
  | pasO (c : Ctx) (p : Name) (v : Expr) (l : Nat)
  | pasV (o : Expr) (p : Name) (c : Ctx) (l : Nat)

def Ctx.plug : Ctx → Expr → Expr
  | .hole, e => e
  | .grouping c l, e => .grouping (c.plug e) l
  | .unary op l c, e => .unary op l (c.plug e)
  | .binL c op l r, e => .binary (c.plug e) op l r
  | .binR a op l c, e => .binary a op l (c.plug e)
  | .logL c op r, e => .logical (c.plug e) op r
  | .logR a op c, e => .logical a op (c.plug e)
  | .callee c pl args, e => .call (c.plug e) pl args
  | .arg f pl pre c post, e => .call f pl (pre ++ c.plug e :: post)
  | .elem pre c post, e => .arrayLit (pre ++ c.plug e :: post)
  | .accA c i l, e => .arrayAccess (c.plug e) i l
  | .accI a c l, e => .arrayAccess a (c.plug e) l
  | .propAcc c p l, e => .propAccess (c.plug e) p l
  | .assign n nl c l, e => .assign n nl (c.plug e) l
  | .aasA c i v l, e => .arrayAssign (c.plug e) i v l
  | .aasI a c v l, e => .arrayAssign a (c.plug e) v l
  | .aasV a i c l, e => .arrayAssign a i (c.plug e) l
  | .pasO c p v l, e => .propAssign (c.plug e) p v l
  | .pasV o p c l, e => .propAssign o p (c.plug e) l

/-- **interchangeable in every context**: two expressions that, in every scope and store, come to the same result
    (value, signal, store, diagnostics — or the same abnormal end) can replace each other inside any enclosing
    expression without changing what that expression comes to -/
theorem plug_congr (C : Ctx) {e e' : Expr} (h : EvEq P e e') : EvEq P (C.plug e) (C.plug e') := by
  induction C with
  | hole => exact h
  | grouping c l ih => exact cong_grouping P l ih
  | unary op l c ih => exact cong_unary P op l ih
  | binL c op l r ih => exact cong_binary P op l ih (.refl P r)
  | binR a op l c ih => exact cong_binary P op l (.refl P a) ih
  | logL c op r ih => exact cong_logical P op ih (.refl P r)
  | logR a op c ih => exact cong_logical P op (.refl P a) ih
  | callee c pl args ih => exact cong_call P pl ih rfl (.refl P args)
  | arg f pl pre c post ih => exact cong_call P pl (.refl P f) (by simp) (.hole P pre post ih)
  | elem pre c post ih => exact cong_arrayLit P (.hole P pre post ih)
  | accA c i l ih => exact cong_arrayAccess P l ih (.refl P i)
  | accI a c l ih => exact cong_arrayAccess P l (.refl P a) ih
  | propAcc c p l ih => exact cong_propAccess P p l ih
  | assign n nl c l ih => exact cong_assign P n nl l ih
  | aasA c i v l ih => exact cong_arrayAssign P l ih (.refl P i) (.refl P v)
  | aasI a c v l ih => exact cong_arrayAssign P l (.refl P a) ih (.refl P v)
  | aasV a i c l ih => exact cong_arrayAssign P l (.refl P a) (.refl P i) ih
  | pasO c p v l ih => exact cong_propAssign P p l ih (.refl P v)
  | pasV o p c l ih => exact cong_propAssign P p l (.refl P o) ih

def EvS (s s' : Stmt) : Prop :=
  ∀ env repl σ, Ev2 (fun F => evalS P F s env repl σ) (fun F => evalS P F s' env repl σ)

theorem EvS.refl (s : Stmt) : EvS P s s := fun _ _ _ => Ev2.refl _
theorem EvS.symm {s s' : Stmt} (h : EvS P s s') : EvS P s' s := fun env repl σ => (h env repl σ).symm

end Borno
