import BornoModel.Lemmas.GrammarEqs
import BornoModel.Lemmas.ParserEqs
/-!
# ParseComplete — every ladder-fitting expression tree is what the parser returns for its own rendering

`toks e` is the rendering of `e` as tokens.  For every tree `e` that fits position 0 of the ladder,
and every following token that cannot continue an expression, `assignment` applied to
`toks e ++ t :: rest` returns `eraseE e` (the tree with its line fields forgotten) and leaves
`t :: rest` — for all sufficiently large fuel.  Hence the rendering is injective on fitting trees
(up to line fields): the tree the parser returns is the *unique* tree the ladder prescribes.

The claims about a tree (`Claims`) speak of what the loops `suffix` and `binLoop` go on to do after
it, whatever that is, so that they compose along a suffix chain or a ladder level; one lemma per
node form derives the claims of a node from those of its children.
-/
namespace Borno.Parser
open Grammar

def Ev {β : Type} (p : Nat → β) (v : β) : Prop := ∃ f0, ∀ f, f0 ≤ f → p f = v

theorem Ev.const {β : Type} {v : β} : Ev (fun _ => v) v := ⟨0, fun _ _ => rfl⟩

theorem Ev.congr {β : Type} {p q : Nat → β} {v : β} (hp : ∀ f, p f = q f) (h : Ev q v) : Ev p v := by
  obtain ⟨f0, h⟩ := h
  exact ⟨f0, fun f hf => (hp f).trans (h f hf)⟩

theorem Ev.unique {β : Type} {p : Nat → β} {v w : β} (h1 : Ev p v) (h2 : Ev p w) : v = w := by
  obtain ⟨f1, h1⟩ := h1; obtain ⟨f2, h2⟩ := h2
  rw [← h1 (max f1 f2) (by omega), h2 (max f1 f2) (by omega)]

theorem ev_bind {α β : Type} {p : Nat → PR α} {q : Nat → α → List Token → PR β} {a : α} {r1 : List Token} {v : PR β}
    (h1 : Ev p (.ok a r1)) (h2 : Ev (fun f => q f a r1) v) : Ev (fun f => (p f).bind (q f)) v := by
  obtain ⟨f1, h1⟩ := h1; obtain ⟨f2, h2⟩ := h2
  exact ⟨max f1 f2, fun f hf => by simp only [h1 f (by omega), PR.bind]; exact h2 f (by omega)⟩

/-- a definition by `| 0 => … | f + 1 => body f` is eventually what its body eventually is; `hp` is one of
    the successor equations of `ParserEqs` -/
theorem ev_succ {β : Type} {p body : Nat → β} {v : β} (hp : ∀ f, p (f + 1) = body f) (h : Ev body v) : Ev p v := by
  obtain ⟨f0, h⟩ := h
  refine ⟨f0 + 1, fun f hf => ?_⟩
  obtain ⟨g, rfl⟩ : ∃ g, f = g + 1 := ⟨f - 1, by omega⟩
  rw [hp]; exact h g (by omega)

theorem ev_expect {tt : TT} {msg : String} {t : Token} {r : List Token} (ht : t.tt = tt) :
    Ev (fun _ => expectTok tt msg (t :: r)) (.ok t r) :=
  Ev.congr (fun _ => expectTok_hit ht msg r) Ev.const

/-- a sub-parse that stops at `t`, followed by an `expectTok` that `t` satisfies -/
theorem ev_bind_expect {α β : Type} {p : Nat → PR α} {tt : TT} {msg : String} {q : Nat → α → Token → List Token → PR β}
    {a : α} {t : Token} {r : List Token} {v : PR β} (h1 : Ev p (.ok a (t :: r))) (ht : t.tt = tt)
    (h2 : Ev (fun f => q f a t r) v) : Ev (fun f => (p f).bind fun a r1 => (expectTok tt msg r1).bind (q f a)) v :=
  ev_bind h1 (ev_bind (ev_expect ht) h2)

theorem ev_binLoop_stop {k : Nat} {t : Token} {acc : Expr} {rest : List Token} (h : (levelOps k).contains t.tt = false) :
    Ev (fun f => binLoop f k acc (t :: rest)) (.ok acc (t :: rest)) :=
  ev_succ (fun _ => binLoop_stop h) Ev.const

def sfx (tt : TT) : Bool := tt == .LEFT_PAREN || tt == .LEFT_BRACKET || tt == .DOT

def opsFrom (k : Nat) (tt : TT) : Bool := (List.range nLevels).any fun j => decide (k ≤ j) && (levelOps j).contains tt

/-- a token that cannot extend an expression at any level tighter than `k` -/
def tight (k : Nat) (tt : TT) : Bool := !sfx tt && !opsFrom (k + 1) tt

/-- a token that cannot extend an expression at all -/
def followA (tt : TT) : Bool := !sfx tt && !opsFrom 0 tt && tt != .EQUAL

theorem opsFrom_eq_false {k : Nat} {tt : TT} :
    opsFrom k tt = false ↔ ∀ j, k ≤ j → j < nLevels → (levelOps j).contains tt = false := by
  simp only [opsFrom, List.any_eq_false, List.mem_range, Bool.and_eq_true, decide_eq_true_eq, not_and, Bool.not_eq_true]
  exact ⟨fun h j h1 h2 => h j h2 h1, fun h j h2 h1 => h j h1 h2⟩

theorem tight_iff {k : Nat} {tt : TT} :
    tight k tt = true ↔ sfx tt = false ∧ ∀ j, k < j → j < nLevels → (levelOps j).contains tt = false := by
  simp only [tight, Bool.and_eq_true, Bool.not_eq_true', opsFrom_eq_false, Nat.succ_le_iff]

theorem followA_iff {tt : TT} :
    followA tt = true ↔ sfx tt = false ∧ (∀ j, j < nLevels → (levelOps j).contains tt = false) ∧ tt ≠ .EQUAL := by
  simp only [followA, Bool.and_eq_true, Bool.not_eq_true', opsFrom_eq_false, Nat.zero_le, true_implies, bne_iff_ne, and_assoc]

theorem tight_mono {k k' : Nat} {tt : TT} (h : tight k tt = true) (hk : k ≤ k') : tight k' tt = true :=
  tight_iff.2 ⟨(tight_iff.1 h).1, fun j hj => (tight_iff.1 h).2 j (by omega)⟩

theorem followA_tight {tt : TT} (h : followA tt = true) (k : Nat) : tight k tt = true :=
  tight_iff.2 ⟨(followA_iff.1 h).1, fun j _ => (followA_iff.1 h).2.1 j⟩

theorem follow_closer : ∀ tt ∈ [TT.RIGHT_PAREN, .RIGHT_BRACKET, .RIGHT_BRACE, .COMMA, .SEMICOLON, .EOF], followA tt = true := by decide +kernel

theorem equal_tight : tight 0 .EQUAL = true ∧ (levelOps 0).contains .EQUAL = false := by decide +kernel

theorem ladder_ops_not_sfx : ∀ k, k < nLevels → ∀ tt ∈ levelOps k, sfx tt = false := by decide +kernel

theorem op_tight {op : TT} {k : Nat} (h : levelOf op = some k) : tight k op = true := by
  obtain ⟨hk, hc⟩ := levelOf_mem h
  refine tight_iff.2 ⟨ladder_ops_not_sfx k hk op (by simpa using hc), fun j hkj hj => ?_⟩
  cases hcj : (levelOps j).contains op with
  | false => rfl
  | true => have := levelOf_ops j hj op (by simpa using hcj); rw [h] at this; cases this; omega

/-- what a ladder level does after its left operand: loop, or (at `k = nLevels`, `unary`) nothing -/
def cont (f k : Nat) (acc : Expr) (ts : List Token) : PR Expr :=
  if k < nLevels then binLoop f k acc ts else .ok acc ts

theorem cont_lt {k : Nat} (hk : k < nLevels) (f : Nat) (acc : Expr) (ts : List Token) : cont f k acc ts = binLoop f k acc ts :=
  if_pos hk

theorem cont_top (f : Nat) (acc : Expr) (ts : List Token) : cont f nLevels acc ts = .ok acc ts := if_neg (Nat.lt_irrefl _)

theorem ev_cont_stop {k : Nat} {t : Token} {acc : Expr} {rest : List Token} (h : tight k t.tt = true) :
    Ev (fun f => cont f (k + 1) acc (t :: rest)) (.ok acc (t :: rest)) := by
  unfold cont
  split
  · exact ev_binLoop_stop ((tight_iff.1 h).2 _ (Nat.lt_succ_self k) ‹_›)
  · exact Ev.const

theorem toks_head (e : Expr) : ∃ x xs, toks e = x :: xs ∧ x.tt = headTT e := by
  obtain ⟨y, ys, h1, h2⟩ := rExpr_head e
  exact ⟨tk y, ys.map tk, by rw [toks, h1]; rfl, h2⟩

def primStart : List TT := [.FALSE, .TRUE, .NIL, .NUMBER, .STRING, .IDENTIFIER, .LEFT_PAREN, .LEFT_BRACKET, .LEFT_BRACE]

def exprStart : List TT := primStart ++ Expect.unaryOps

theorem rLit_start (v : LitVal) : (rLit v).tt ∈ primStart := by
  cases v with
  | nil => simp [rLit, kw, primStart]
  | bool b => cases b <;> simp [rLit, kw, primStart]
  | num x => simp [rLit, primStart]
  | str s => simp [rLit, primStart]

/-- the rendering of a fitting tree starts with a token that starts a primary or, where the position
    admits a prefix operator, with one of those -/
theorem head_start : ∀ (e : Expr) {k : Nat}, fits k e = true →
    headTT e ∈ primStart ∨ k ≤ nLevels + 1 ∧ headTT e ∈ Expect.unaryOps
  | .literal v _ => fun _ => .inl (rLit_start v)
  | .ident .. | .grouping .. | .arrayLit .. | .objectLit .. | .assign .. => fun _ => .inl (by simp [headTT, primStart])
  | .unary .. => fun h => by
    simp only [fits, Bool.and_eq_true, decide_eq_true_eq, List.contains_iff_mem] at h
    exact .inr h.1
  | .binary l .. | .logical l .. => fun h => by
    simp only [fits] at h
    split at h
    · rename_i j hj
      simp only [Bool.and_eq_true, decide_eq_true_eq] at h
      exact (head_start l h.1.2).imp_right fun hu => ⟨by have := h.1.1.1; omega, hu.2⟩
    · cases h
  | .call c .. | .arrayAccess c .. | .propAccess c .. | .arrayAssign c .. | .propAssign c .. => fun h => by
    have hc : fits (nLevels + 2) c = true := by
      simp only [fits, Bool.and_eq_true] at h
      simp only [h]
    exact .inl ((head_start c hc).resolve_right fun hu => Nat.not_succ_le_self _ hu.1)

theorem toks_start {e : Expr} {k : Nat} (hf : fits k e = true) : ∃ x xs, toks e = x :: xs ∧ x.tt = headTT e ∧ x.tt ∈ exprStart := by
  obtain ⟨x, xs, hx, hxt⟩ := toks_head e
  exact ⟨x, xs, hx, hxt, hxt ▸ (head_start e hf).elim (List.mem_append_left _) fun h => List.mem_append_right _ h.2⟩

theorem primStart_not_unary : ∀ tt ∈ primStart, Expect.unaryOps.contains tt = false := by decide +kernel

/-- a token that starts an expression neither closes a bracket nor ends or starts a statement -/
theorem exprStart_ne : ∀ tt ∈ exprStart, ∀ tt' ∈ [TT.RIGHT_PAREN, .RIGHT_BRACKET, .RIGHT_BRACE, .SEMICOLON, .EOF, .ELSE, .VAR, .FUN,
    .IF, .WHILE, .FOR, .PRINT, .RETURN, .BREAK, .CONTINUE], tt ≠ tt' := by decide +kernel

def SAt (e : Expr) : Prop := fits (nLevels + 2) e = true → ∀ ts' v, Ev (fun f => suffix f (eraseE e) ts') v →
    Ev (fun f => (primary f (toks e ++ ts')).bind fun e r2 => suffix f e r2) v

def UAt (e : Expr) : Prop := fits (nLevels + 1) e = true → ∀ t rest, sfx t.tt = false →
    Ev (fun f => unary f (toks e ++ t :: rest)) (.ok (eraseE e) (t :: rest))

def GAt (e : Expr) (k : Nat) : Prop := fits (k + 1) e = true → ∀ t rest v, tight k t.tt = true →
    Ev (fun f => cont f k (eraseE e) (t :: rest)) v → Ev (fun f => binLevel f k (toks e ++ t :: rest)) v

def AAt (e : Expr) : Prop := fits 0 e = true → ∀ t rest, followA t.tt = true →
    Ev (fun f => assignment f (toks e ++ t :: rest)) (.ok (eraseE e) (t :: rest))

structure Claims (e : Expr) : Prop where
  S : SAt e
  U : UAt e
  G : ∀ k, k ≤ nLevels → GAt e k
  A : AAt e

def AllClaims : List Expr → Prop
  | [] => True
  | e :: es => Claims e ∧ AllClaims es

def AllClaimsP : List (Name × Expr) → Prop
  | [] => True
  | p :: ps => Claims p.2 ∧ AllClaimsP ps

theorem nLevels_pos : 0 < nLevels := by decide

theorem U_of_S {e : Expr} (hpos : posOf e = nLevels + 2) (hS : SAt e) : UAt e := by
  intro hf t rest hs
  have hf2 := fits_up (Nat.le_of_eq hpos.symm) hf
  obtain ⟨x, xs, hx, hxt⟩ := toks_head e
  have hnu := primStart_not_unary _ ((head_start e hf2).resolve_right fun h => Nat.not_succ_le_self _ h.1)
  simp only [sfx, Bool.or_eq_false_iff, beq_eq_false_iff_ne] at hs
  have h1 := hS hf2 (t :: rest) _ (ev_succ (fun _ => suffix_stop hs.1.1 hs.1.2 hs.2) Ev.const)
  rw [hx] at h1 ⊢
  exact ev_succ (fun _ => unary_prim (hxt ▸ hnu)) h1

theorem G_top {e : Expr} (hU : UAt e) : GAt e nLevels := by
  intro hf t rest v ht hc
  simp only [cont_top] at hc
  rw [hc.unique Ev.const]
  exact ev_succ (fun _ => binLevel_top (Nat.lt_irrefl _)) (hU hf t rest (tight_iff.1 ht).1)

/-- a level looser than the node's own hands the tokens down, and finds nothing to do afterwards -/
theorem G_step {e : Expr} {k : Nat} (hk : k < nLevels) (hpos : k + 2 ≤ posOf e) (hG : GAt e (k + 1)) : GAt e k := by
  intro hf t rest v ht hc
  simp only [cont_lt hk] at hc
  exact ev_succ (fun _ => binLevel_descend hk)
    (ev_bind (hG (fits_up hpos hf) t rest _ (tight_mono ht (Nat.le_succ _)) (ev_cont_stop ht)) hc)

theorem G_down {e : Expr} {j k : Nat} (hkj : k ≤ j) (hj : j ≤ nLevels) (hpos : j + 1 ≤ posOf e) (hG : GAt e j) : GAt e k := by
  induction hkj with
  | refl => exact hG
  | step _ ih => exact ih (by omega) (by omega) (G_step (by omega) (by omega) hG)

theorem A_of_G {e : Expr} (hpos : fits 0 e = true → 1 ≤ posOf e) (hG : GAt e 0) : AAt e := by
  intro hf t rest hfo
  obtain ⟨_, hops, hne⟩ := followA_iff.1 hfo
  have h1 := hG (fits_up (hpos hf) hf) t rest _ (followA_tight hfo 0)
    (by simp only [cont_lt nLevels_pos]; exact ev_binLoop_stop (hops 0 nLevels_pos))
  refine ev_succ (assignment_succ · _) (ev_bind h1 ?_)
  simp only [peekTok_cons, if_neg hne]
  exact Ev.const

/-- the claims of a tree that only `unary` or `primary` can have built, from its `unary` claim -/
theorem claims_of_U {e : Expr} (hpos : nLevels + 1 ≤ posOf e) (hS : SAt e) (hU : UAt e) : Claims e :=
  have hG := fun k hk => G_down hk (Nat.le_refl _) hpos (G_top hU)
  ⟨hS, hU, hG, A_of_G (fun _ => by omega) (hG 0 (Nat.zero_le _))⟩

/-- the claims of a tree of the `call` / `primary` level, from its suffix claim -/
theorem claims_of_S {e : Expr} (hpos : posOf e = nLevels + 2) (hS : SAt e) : Claims e :=
  claims_of_U (by omega) hS (U_of_S hpos hS)

def toksL (es : List Expr) : List Token := (rList es).map tk
def toksP (ps : List (Name × Expr)) : List Token := (rProps ps).map tk

@[simp] theorem tk_kw_tt (tt : TT) : (tk (kw tt)).tt = tt := rfl
@[simp] theorem tk_line (x : RTok) : (tk x).line = 0 := rfl
@[simp] theorem tk_idt_tt (n : Name) : (tk (idt n)).tt = .IDENTIFIER := rfl
@[simp] theorem tk_idt_lexeme (n : Name) : (tk (idt n)).lexeme = n := rfl

theorem toks_literal (v : LitVal) (ln : Nat) : toks (.literal v ln) = [tk (rLit v)] := by simp [toks, rExpr]
theorem toks_ident (n : Name) (ln : Nat) : toks (.ident n ln) = [tk (idt n)] := by simp [toks, rExpr]
theorem toks_grouping (e : Expr) (ln : Nat) : toks (.grouping e ln) = tk (kw .LEFT_PAREN) :: (toks e ++ [tk (kw .RIGHT_PAREN)]) := by
  simp [toks, rExpr]
theorem toks_unary (op : TT) (ln : Nat) (e : Expr) : toks (.unary op ln e) = tk (kw op) :: toks e := by simp [toks, rExpr]
theorem toks_binary (l : Expr) (op : TT) (ln : Nat) (r : Expr) : toks (.binary l op ln r) = toks l ++ tk (kw op) :: toks r := by
  simp [toks, rExpr]
theorem toks_logical (l : Expr) (op : TT) (r : Expr) : toks (.logical l op r) = toks l ++ tk (kw op) :: toks r := by
  simp [toks, rExpr]
theorem toks_call (c : Expr) (ln : Nat) (args : List Expr) :
    toks (.call c ln args) = toks c ++ tk (kw .LEFT_PAREN) :: (toksL args ++ [tk (kw .RIGHT_PAREN)]) := by
  simp [toks, toksL, rExpr]
theorem toks_arrayLit (es : List Expr) : toks (.arrayLit es) = tk (kw .LEFT_BRACKET) :: (toksL es ++ [tk (kw .RIGHT_BRACKET)]) := by
  simp [toks, toksL, rExpr]
theorem toks_objectLit (ps : List (Name × Expr)) (tc : Bool) :
    toks (.objectLit ps tc) = tk (kw .LEFT_BRACE) :: (toksP ps ++ ((if tc then [tk (kw .COMMA)] else []) ++ [tk (kw .RIGHT_BRACE)])) := by
  cases tc <;> simp [toks, toksP, rExpr]
theorem toks_arrayAccess (a i : Expr) (ln : Nat) :
    toks (.arrayAccess a i ln) = toks a ++ tk (kw .LEFT_BRACKET) :: (toks i ++ [tk (kw .RIGHT_BRACKET)]) := by
  simp [toks, rExpr]
theorem toks_propAccess (o : Expr) (q : Name) (ln : Nat) : toks (.propAccess o q ln) = toks o ++ [tk (kw .DOT), tk (idt q)] := by
  simp [toks, rExpr]
theorem toks_assign (n : Name) (l : Nat) (v : Expr) (ln : Nat) : toks (.assign n l v ln) = toks (.ident n l) ++ tk (kw .EQUAL) :: toks v := by
  simp [toks, rExpr]
theorem toks_arrayAssign (a i v : Expr) (ln : Nat) :
    toks (.arrayAssign a i v ln) = toks (.arrayAccess a i 0) ++ tk (kw .EQUAL) :: toks v := by
  simp [toks, rExpr]
theorem toks_propAssign (o : Expr) (q : Name) (v : Expr) (ln : Nat) :
    toks (.propAssign o q v ln) = toks (.propAccess o q 0) ++ tk (kw .EQUAL) :: toks v := by
  simp [toks, rExpr]

theorem toksL_nil : toksL [] = [] := rfl
theorem toksL_one (a : Expr) : toksL [a] = toks a := by simp [toksL, toks, rList]
theorem toksL_more (a b : Expr) (es : List Expr) : toksL (a :: b :: es) = toks a ++ tk (kw .COMMA) :: toksL (b :: es) := by
  simp [toksL, toks, rList]
theorem toksP_nil : toksP [] = [] := rfl
theorem toksP_one (k : Name) (v : Expr) : toksP [(k, v)] = tk (idt k) :: tk (kw .COLON) :: toks v := by simp [toksP, toks, rProps]
theorem toksP_more (k : Name) (v : Expr) (p : Name × Expr) (ps : List (Name × Expr)) :
    toksP ((k, v) :: p :: ps) = tk (idt k) :: tk (kw .COLON) :: (toks v ++ tk (kw .COMMA) :: toksP (p :: ps)) := by
  simp [toksP, toks, rProps]

theorem toksL_head {a : Expr} {es : List Expr} (hf : fitsAll (a :: es) = true) :
    ∃ x xs, toksL (a :: es) = x :: xs ∧ x.tt ∈ exprStart := by
  simp only [fitsAll, Bool.and_eq_true] at hf
  obtain ⟨x, xs, hx, _, hs⟩ := toks_start hf.1
  cases es with
  | nil => exact ⟨x, xs, by rw [toksL_one, hx], hs⟩
  | cons b es => exact ⟨x, _, by rw [toksL_more, hx]; rfl, hs⟩

theorem list_claim : ∀ (a : Expr) (es : List Expr), AllClaims (a :: es) → fitsAll (a :: es) = true →
    ∀ t rest, followA t.tt = true → t.tt ≠ .COMMA →
      Ev (fun f => exprList f (toksL (a :: es) ++ t :: rest)) (.ok (eraseL (a :: es)) (t :: rest))
  | a, [], hA, hf, t, rest, hfo, hc => by
    simp only [fitsAll, Bool.and_eq_true] at hf
    rw [toksL_one]
    refine ev_succ (exprList_succ · _) (ev_bind (hA.1.A hf.1 t rest hfo) ?_)
    simp only [peekTok_cons, if_neg hc]
    exact Ev.const
  | a, b :: es, hA, hf, t, rest, hfo, hc => by
    rw [fitsAll, Bool.and_eq_true] at hf
    rw [toksL_more, List.append_assoc, List.cons_append]
    refine ev_succ (exprList_succ · _) (ev_bind (hA.1.A hf.1 (tk (kw .COMMA)) _ (follow_closer _ (by decide))) ?_)
    simp only [peekTok_cons, tk_kw_tt, if_true]
    exact ev_bind (list_claim b es hA.2 hf.2 t rest hfo hc) Ev.const

theorem ev_obj_end {t : Token} {r : List Token} (ht : t.tt = .RIGHT_BRACE) :
    Ev (fun f => objProps f (t :: r)) (.ok ([], false) (t :: r)) :=
  ev_succ (fun _ => objProps_end (.inl ht)) Ev.const

/-- one `name : value` item of an object literal followed by a comma, and what the loop makes of the rest -/
theorem ev_obj_more {t tc t2 : Token} {r1 r3 r4 : List Token} {v : Expr} {ps : List (Name × Expr) × Bool}
    (ht : t.tt = .IDENTIFIER) (htc : tc.tt = .COLON) (ht2 : t2.tt = .COMMA)
    (h : Ev (fun f => assignment f r1) (.ok v (t2 :: r3))) (h2 : Ev (fun f => objProps f r3) (.ok ps r4)) :
    Ev (fun f => objProps f (t :: tc :: r1)) (.ok ((t.lexeme, v) :: ps.1, if ps.1.isEmpty then true else ps.2) r4) := by
  refine ev_succ (fun _ => objProps_item ht) (ev_bind (ev_expect htc) (ev_bind h ?_))
  simp only [peekTok_cons, if_pos ht2]
  exact ev_bind h2 Ev.const

theorem props_claim : ∀ (ps : List (Name × Expr)) (tc : Bool), AllClaimsP ps → fitsProps ps = true → (ps = [] → tc = false) →
    ∀ t rest, t.tt = .RIGHT_BRACE →
      Ev (fun f => objProps f (toksP ps ++ ((if tc then [tk (kw .COMMA)] else []) ++ t :: rest))) (.ok (eraseP ps, tc) (t :: rest))
  | [], tc, _, _, hflag, t, rest, ht => by
    rw [hflag rfl]
    exact ev_obj_end ht
  | [(k, v)], false, hA, hf, _, t, rest, ht => by
    simp only [fitsProps, Bool.and_eq_true] at hf
    rw [toksP_one]
    refine ev_succ (fun _ => objProps_item rfl)
      (ev_bind (ev_expect rfl) (ev_bind (hA.1.A hf.1 t rest (ht ▸ follow_closer _ (by decide))) ?_))
    simp only [peekTok_cons, ht, reduceCtorEq, if_false]
    exact Ev.const
  | [(k, v)], true, hA, hf, _, t, rest, ht => by
    simp only [fitsProps, Bool.and_eq_true] at hf
    rw [toksP_one]
    exact ev_obj_more rfl rfl rfl (hA.1.A hf.1 _ _ (follow_closer _ (by decide))) (ev_obj_end ht)
  | (k, v) :: (k', v') :: ps, tc, hA, hf, _, t, rest, ht => by
    rw [fitsProps, Bool.and_eq_true] at hf
    rw [toksP_more]
    simp only [List.cons_append, List.append_assoc]
    exact ev_obj_more rfl rfl rfl (hA.1.A hf.1 _ _ (follow_closer _ (by decide))) (props_claim ((k', v') :: ps) tc hA.2 hf.2 (by simp) t rest ht)

theorem claims_literal (v : LitVal) (ln : Nat) : Claims (.literal v ln) := by
  refine claims_of_S rfl fun _ ts' w hw => ?_
  rw [toks_literal]
  refine ev_bind (ev_succ (v := PR.ok (.literal v 0) ts') (fun f => ?_) Ev.const) hw
  cases v with
  | nil => exact primary_nil rfl
  | bool b => cases b with
    | false => exact primary_false rfl
    | true => exact primary_true rfl
  | num x => exact primary_number rfl
  | str s => exact primary_string rfl

theorem claims_ident (n : Name) (ln : Nat) : Claims (.ident n ln) := by
  refine claims_of_S rfl fun _ ts' w hw => ?_
  rw [toks_ident]
  exact ev_bind (ev_succ (fun _ => primary_ident rfl) Ev.const) hw

theorem claims_grouping {e : Expr} (ln : Nat) (he : AAt e) : Claims (.grouping e ln) := by
  refine claims_of_S rfl fun hf ts' w hw => ?_
  simp only [fits, Bool.and_eq_true] at hf
  rw [toks_grouping]
  simp only [List.cons_append, List.append_assoc, List.nil_append]
  have h1 := he hf.2 (tk (kw .RIGHT_PAREN)) ts' (follow_closer _ (by decide))
  exact ev_bind (ev_succ (fun _ => primary_group rfl) (ev_bind_expect h1 rfl Ev.const)) hw

theorem claims_arrayLit {es : List Expr} (hes : AllClaims es) : Claims (.arrayLit es) := by
  refine claims_of_S rfl fun hf ts' w hw => ?_
  simp only [fits, Bool.and_eq_true] at hf
  rw [toks_arrayLit]
  simp only [List.cons_append, List.append_assoc, List.nil_append]
  refine ev_bind ?_ hw
  cases es with
  | nil => exact ev_succ (fun _ => primary_arr0 rfl rfl) Ev.const
  | cons a es =>
    obtain ⟨x, xs, hx, hxs⟩ := toksL_head hf.2
    have h1 := list_claim a es hes hf.2 (tk (kw .RIGHT_BRACKET)) ts' (follow_closer _ (by decide)) (by simp)
    rw [hx] at h1 ⊢
    exact ev_succ (fun _ => primary_arr rfl (exprStart_ne _ hxs _ (by decide))) (ev_bind_expect h1 rfl Ev.const)

theorem claims_objectLit {ps : List (Name × Expr)} (tc : Bool) (hps : AllClaimsP ps) : Claims (.objectLit ps tc) := by
  refine claims_of_S rfl fun hf ts' w hw => ?_
  simp only [fits, Bool.and_eq_true] at hf
  rw [toks_objectLit]
  simp only [List.cons_append, List.append_assoc, List.nil_append]
  have h1 := props_claim ps tc hps hf.1.2 (fun h => by simpa [h] using hf.2) (tk (kw .RIGHT_BRACE)) ts' rfl
  exact ev_bind (ev_succ (fun _ => primary_obj rfl) (ev_bind_expect h1 rfl Ev.const)) hw

theorem claims_call {c : Expr} (ln : Nat) {args : List Expr} (hc : SAt c) (hargs : AllClaims args) : Claims (.call c ln args) := by
  refine claims_of_S rfl fun hf ts' w hw => ?_
  simp only [fits, Bool.and_eq_true] at hf
  rw [toks_call]
  simp only [List.cons_append, List.append_assoc, List.nil_append]
  refine hc hf.1.2 _ w ?_
  cases args with
  | nil => exact ev_succ (fun _ => suffix_call0 rfl rfl) hw
  | cons a es =>
    obtain ⟨x, xs, hx, hxs⟩ := toksL_head hf.2
    have h1 := list_claim a es hargs hf.2 (tk (kw .RIGHT_PAREN)) ts' (follow_closer _ (by decide)) (by simp)
    rw [hx] at h1 ⊢
    exact ev_succ (fun _ => suffix_call rfl (exprStart_ne _ hxs _ (by decide))) (ev_bind_expect h1 rfl hw)

theorem claims_arrayAccess {a i : Expr} (ln : Nat) (ha : SAt a) (hi : AAt i) : Claims (.arrayAccess a i ln) := by
  refine claims_of_S rfl fun hf ts' w hw => ?_
  simp only [fits, Bool.and_eq_true] at hf
  rw [toks_arrayAccess]
  simp only [List.cons_append, List.append_assoc, List.nil_append]
  have h1 := hi hf.2 (tk (kw .RIGHT_BRACKET)) ts' (follow_closer _ (by decide))
  exact ha hf.1.2 _ w (ev_succ (fun _ => suffix_index rfl) (ev_bind_expect h1 rfl hw))

theorem claims_propAccess {o : Expr} (q : Name) (ln : Nat) (ho : SAt o) : Claims (.propAccess o q ln) := by
  refine claims_of_S rfl fun hf ts' w hw => ?_
  simp only [fits, Bool.and_eq_true] at hf
  rw [toks_propAccess]
  simp only [List.cons_append, List.append_assoc, List.nil_append]
  exact ho hf.2 _ w (ev_succ (fun _ => suffix_prop rfl) (ev_bind (ev_expect rfl) hw))

theorem claims_unary (op : TT) (ln : Nat) {e : Expr} (he : UAt e) : Claims (.unary op ln e) := by
  refine claims_of_U (Nat.le_refl _) (fun hf => absurd (fits_iff.1 hf).1 (Nat.not_succ_le_self _)) fun hf t rest hs => ?_
  simp only [fits, Bool.and_eq_true] at hf
  rw [toks_unary]
  exact ev_succ (fun _ => unary_op hf.1.2) (ev_bind (he hf.2 t rest hs) Ev.const)

/-- `Binary` and `Logical` nodes: the left operand is parsed one level down and stopped by the operator; the
    loop of the operator's level takes the right operand, builds the node and goes on with it -/
theorem claims_bin {l r e : Expr} {op : TT} {ln : Nat} (he : e = .binary l op ln r ∨ e = .logical l op r)
    (hl : ∀ k, k ≤ nLevels → GAt l k) (hr : ∀ k, k ≤ nLevels → GAt r k) : Claims e := by
  have htoks : toks e = toks l ++ tk (kw op) :: toks r := by
    rcases he with rfl | rfl
    · exact toks_binary ..
    · exact toks_logical ..
  have hfits : ∀ {p}, fits p e = true → ∃ j, levelOf op = some j ∧ posOf e = j + 1 ∧ fits (j + 1) l = true ∧ fits (j + 2) r = true ∧
      mkBin j (eraseE l) (tk (kw op)) (eraseE r) = eraseE e := by
    intro p h
    rcases he with rfl | rfl
    all_goals
      simp only [fits] at h
      split at h
      · rename_i j hj
        simp only [Bool.and_eq_true, beq_iff_eq] at h
        exact ⟨j, hj, by simp only [posOf, hj], h.1.2, h.2, by rw [mkBin, h.1.1.2]; rfl⟩
      · cases h
  have hlow : ∀ {p}, fits p e = true → p ≤ nLevels := fun h => by
    obtain ⟨j, hj, hpos, _⟩ := hfits h
    have := (levelOf_mem hj).1
    have := (fits_iff.1 h).1
    omega
  have hG : ∀ k, k ≤ nLevels → GAt e k := fun k _ hf => by
    obtain ⟨j, hj, hpos, hfl, hfr, hmk⟩ := hfits hf
    obtain ⟨hjn, hjc⟩ := levelOf_mem hj
    refine G_down (by have := (fits_iff.1 hf).1; omega) (Nat.le_of_lt hjn) (Nat.le_of_eq hpos.symm) (fun _ t rest v ht hc => ?_) hf
    simp only [cont_lt hjn] at hc
    rw [htoks]
    simp only [List.append_assoc, List.cons_append]
    refine hl j (Nat.le_of_lt hjn) hfl (tk (kw op)) _ v (op_tight hj) ?_
    simp only [cont_lt hjn]
    have h1 := hr (j + 1) hjn hfr t rest _ (tight_mono ht (Nat.le_succ _)) (ev_cont_stop ht)
    exact ev_succ (fun _ => binLoop_op hjc) (ev_bind h1 (hmk ▸ hc))
  exact ⟨fun hf => absurd (hlow hf) (by omega), fun hf => absurd (hlow hf) (by omega), hG,
    A_of_G (fun hf => by obtain ⟨j, _, hpos, _⟩ := hfits hf; omega) (hG 0 (Nat.zero_le _))⟩

/-- the three assignment forms: the target is parsed as a `logicalOR` expression, `=` stops it, the value is
    an assignment again; `hres` is what `assignment` then makes of this form of target -/
theorem claims_assign_like {target v e : Expr} (hpos : posOf e = 0)
    (htoks : toks e = toks target ++ tk (kw .EQUAL) :: toks v)
    (hfits : fits 0 e = true → fits 1 target = true ∧ fits 0 v = true)
    (htarget : GAt target 0) (hv : AAt v)
    (hres : ∀ r2, (match eraseE target with
      | .ident n l => PR.ok (Expr.assign n l (eraseE v) 0) r2
      | .arrayAccess a i _ => .ok (Expr.arrayAssign a i (eraseE v) 0) r2
      | .propAccess o p _ => .ok (Expr.propAssign o p (eraseE v) 0) r2
      | _ => .err (errAt (tk (kw .EQUAL)) "Invalid assignment target.".toList)) = .ok (eraseE e) r2) : Claims e := by
  refine ⟨fun hf => absurd (fits_iff.1 hf).1 (by omega), fun hf => absurd (fits_iff.1 hf).1 (by omega),
    fun k _ hf => absurd (fits_iff.1 hf).1 (by omega), fun hf t rest hfo => ?_⟩
  obtain ⟨hft, hfv⟩ := hfits hf
  rw [htoks]
  simp only [List.append_assoc, List.cons_append]
  have h1 := htarget hft (tk (kw .EQUAL)) (toks v ++ t :: rest) _ equal_tight.1
    (by simp only [cont_lt nLevels_pos]; exact ev_binLoop_stop equal_tight.2)
  refine ev_succ (assignment_succ · _) (ev_bind h1 ?_)
  simp only [peekTok_cons, tk_kw_tt, if_true]
  exact ev_bind (hv hfv t rest hfo) (Ev.congr (fun _ => hres _) Ev.const)

theorem claims_assign (n : Name) (l : Nat) {v : Expr} (ln : Nat) (hv : AAt v) : Claims (.assign n l v ln) :=
  claims_assign_like rfl (toks_assign n l v ln) (fun h => by simpa [fits] using h)
    ((claims_ident n l).G 0 (Nat.zero_le _)) hv fun _ => rfl

theorem claims_arrayAssign {a i v : Expr} (ln : Nat) (ha : SAt a) (hi : AAt i) (hv : AAt v) : Claims (.arrayAssign a i v ln) :=
  claims_assign_like rfl (toks_arrayAssign a i v ln) (fun h => by simpa [fits, and_assoc] using h)
    ((claims_arrayAccess 0 ha hi).G 0 (Nat.zero_le _)) hv fun _ => rfl

theorem claims_propAssign {o v : Expr} (q : Name) (ln : Nat) (ho : SAt o) (hv : AAt v) : Claims (.propAssign o q v ln) :=
  claims_assign_like rfl (toks_propAssign o q v ln) (fun h => by simpa [fits] using h)
    ((claims_propAccess q 0 ho).G 0 (Nat.zero_le _)) hv fun _ => rfl

mutual
theorem claims : ∀ e : Expr, Claims e
  | .literal v ln => claims_literal v ln
  | .ident n ln => claims_ident n ln
  | .grouping e ln => claims_grouping ln (claims e).A
  | .unary op ln e => claims_unary op ln (claims e).U
  | .binary l _ ln r => claims_bin (ln := ln) (.inl rfl) (claims l).G (claims r).G
  | .logical l _ r => claims_bin (ln := 0) (.inr rfl) (claims l).G (claims r).G  -- a `Logical` node has no line; any `ln` does
  | .call c ln args => claims_call ln (claims c).S (claimsL args)
  | .arrayLit es => claims_arrayLit (claimsL es)
  | .objectLit ps tc => claims_objectLit tc (claimsP ps)
  | .arrayAccess a i ln => claims_arrayAccess ln (claims a).S (claims i).A
  | .propAccess o q ln => claims_propAccess q ln (claims o).S
  | .assign n l v ln => claims_assign n l ln (claims v).A
  | .arrayAssign a i v ln => claims_arrayAssign ln (claims a).S (claims i).A (claims v).A
  | .propAssign o q v ln => claims_propAssign q ln (claims o).S (claims v).A
theorem claimsL : ∀ es : List Expr, AllClaims es
  | [] => trivial
  | e :: es => ⟨claims e, claimsL es⟩
theorem claimsP : ∀ ps : List (Name × Expr), AllClaimsP ps
  | [] => trivial
  | (_, e) :: ps => ⟨claims e, claimsP ps⟩
end

/-- **completeness of the expression parser**: for every tree that fits the ladder, parsing its own
    rendering (followed by any token that cannot continue an expression) returns that tree, line
    fields forgotten, and leaves the rest — for all sufficiently large fuel -/
theorem assignment_complete (e : Expr) (hf : fits 0 e = true) (t : Token) (rest : List Token) (ht : followA t.tt = true) :
    ∃ f0, ∀ f, f0 ≤ f → assignment f (toks e ++ t :: rest) = .ok (eraseE e) (t :: rest) :=
  (claims e).A hf t rest ht

/-- two fitting trees with the same rendering are the same tree up to line fields, whatever positions they fit -/
theorem rendering_injective_at {k1 k2 : Nat} {e1 e2 : Expr} (h1 : fits k1 e1 = true) (h2 : fits k2 e2 = true)
    (h : rExpr e1 = rExpr e2) : eraseE e1 = eraseE e2 := by
  have ht : followA (tk (kw .EOF)).tt = true := follow_closer _ (by decide)
  have c1 := assignment_complete e1 (fits_mono h1 (Nat.zero_le _)) (tk (kw .EOF)) [] ht
  have c2 := assignment_complete e2 (fits_mono h2 (Nat.zero_le _)) (tk (kw .EOF)) [] ht
  rw [toks, h] at c1
  exact (PR.ok.inj (Ev.unique c1 c2)).1

/-- **the tree is unique**: two ladder-fitting trees with the same rendering are the same tree
    (up to line fields) -/
theorem rendering_injective (e1 e2 : Expr) (h1 : fits 0 e1 = true) (h2 : fits 0 e2 = true) (h : rExpr e1 = rExpr e2) :
    eraseE e1 = eraseE e2 := rendering_injective_at h1 h2 h

mutual
theorem fits_paren : ∀ e : Expr, opsOk e = true → fits 0 (paren e) = true
  | .literal .., _ | .ident .., _ => by simp [paren, fits]
  | .grouping e _, h | .propAccess e .., h | .assign _ _ e _, h => by
    simp only [opsOk] at h
    simp [paren, fits, fits_paren e h]
  | .unary op _ e, h => by
    simp only [opsOk, Bool.and_eq_true, List.contains_iff_mem] at h
    simp [paren, fits, h.1, fits_paren e h.2]
  | .binary l op _ r, h | .logical l op r, h => by
    simp only [opsOk, Bool.and_eq_true] at h
    cases hj : levelOf op with
    | none => simp [hj] at h
    | some j =>
      have := (levelOf_mem hj).1
      have : nLev = nLevels := rfl
      simp only [hj] at h
      simp only [paren, fits, hj, h.1.1, fits_paren l h.1.2, fits_paren r h.2, Bool.and_eq_true, decide_eq_true_eq, and_true]
      omega
  | .call c _ args, h => by
    simp only [opsOk, Bool.and_eq_true] at h
    simp [paren, fits, fits_paren c h.1, fitsAll_paren args h.2]
  | .arrayLit es, h => by
    simp only [opsOk] at h
    simp [paren, fits, fitsAll_paren es h]
  | .objectLit ps tc, h => by
    simp only [opsOk, Bool.and_eq_true] at h
    have : (parenP ps).isEmpty = ps.isEmpty := by cases ps <;> simp [parenP]
    simp [paren, fits, fitsProps_paren ps h.1, this, h.2]
  | .arrayAccess a i _, h | .propAssign a _ i _, h => by
    simp only [opsOk, Bool.and_eq_true] at h
    simp [paren, fits, fits_paren a h.1, fits_paren i h.2]
  | .arrayAssign a i v _, h => by
    simp only [opsOk, Bool.and_eq_true] at h
    simp [paren, fits, fits_paren a h.1.1, fits_paren i h.1.2, fits_paren v h.2]
theorem fitsAll_paren : ∀ es : List Expr, opsOkL es = true → fitsAll (parenL es) = true
  | [], _ => rfl
  | e :: es, h => by
    simp only [opsOkL, Bool.and_eq_true] at h
    simp [parenL, fitsAll, fits_paren e h.1, fitsAll_paren es h.2]
theorem fitsProps_paren : ∀ ps : List (Name × Expr), opsOkP ps = true → fitsProps (parenP ps) = true
  | [], _ => rfl
  | (_, e) :: ps, h => by
    simp only [opsOkP, Bool.and_eq_true] at h
    simp [parenP, fitsProps, fits_paren e h.1, fitsProps_paren ps h.2]
end

mutual
theorem strip_paren : ∀ e : Expr, strip (paren e) = strip e
  | .literal .. | .ident .. => rfl
  | .grouping e _ | .unary _ _ e | .propAccess e .. | .assign _ _ e _ => by simp [paren, strip, strip_paren e]
  | .binary l _ _ r | .logical l _ r | .arrayAccess l r _ | .propAssign l _ r _ => by simp [paren, strip, strip_paren l, strip_paren r]
  | .call c _ args => by simp [paren, strip, strip_paren c, stripL_paren args]
  | .arrayLit es => by simp [paren, strip, stripL_paren es]
  | .objectLit ps _ => by simp [paren, strip, stripP_paren ps]
  | .arrayAssign a i v _ => by simp [paren, strip, strip_paren a, strip_paren i, strip_paren v]
theorem stripL_paren : ∀ es : List Expr, stripL (parenL es) = stripL es
  | [] => rfl
  | e :: es => by simp [parenL, stripL, strip_paren e, stripL_paren es]
theorem stripP_paren : ∀ ps : List (Name × Expr), stripP (parenP ps) = stripP ps
  | [] => rfl
  | (_, e) :: ps => by simp [parenP, stripP, strip_paren e, stripP_paren ps]
end

/-- **writing a tree out with explicit parentheses and parsing it gives the same tree back**: for any
    tree whose operators are operators of the language, the parser accepts the fully parenthesised
    rendering and returns exactly the parenthesised tree (line fields forgotten), which is the
    original tree once the `Grouping` nodes are removed -/
theorem paren_roundtrip (e : Expr) (h : opsOk e = true) (t : Token) (rest : List Token) (ht : followA t.tt = true) :
    (∃ f0, ∀ f, f0 ≤ f → assignment f (toks (paren e) ++ t :: rest) = .ok (eraseE (paren e)) (t :: rest)) ∧
    strip (paren e) = strip e :=
  ⟨assignment_complete (paren e) (fits_paren e h) t rest ht, strip_paren e⟩

end Borno.Parser
