import BornoModel.Lemmas.ParseGraph
/-!
# ParseGraphStmt — what a run of the statement parser can be

`ParsesS g ts a r ds`: as `Parses`, for `declaration function block statement program`, with the
diagnostics `ds`; the helpers outside the recursion get a small relation each.  `specSt` and
`spec_program` walk each body once and establish `SpecS (ParsesS g ts) ts (g.run f ts)`: as `Spec`,
and a run that gives up has reported a diagnostic.
-/
namespace Borno.Parser

/-- as `Spec`; the diagnostics of a result are given to `Q`, and an `err` carries at least one -/
def SpecS {α : Type} (Q : α → List Token → List Diag → Prop) (ts : List Token) : SR α → Prop
  | .ok a rest ds => Q a rest ds ∧ (HasEOF ts → HasEOF rest)
  | .err ds => ds ≠ []
  | .abn x => HasEOF ts → x ≠ .panic

namespace SpecS
variable {α β : Type} {ts : List Token} {Q : α → List Token → List Diag → Prop}

theorem ok {a : α} {ds : List Diag} (h : Q a ts ds) : SpecS Q ts (.ok a ts ds) := ⟨h, id⟩
theorem err {d : Diag} : SpecS Q ts (.err [d] : SR α) := by simp [SpecS]
theorem fuel : SpecS Q ts (.abn .fuel : SR α) := fun _ => by decide

theorem of_ok {x : SR α} {a : α} {r : List Token} {ds : List Diag} (hx : SpecS Q ts x) (h : x = .ok a r ds) : Q a r ds := by
  subst h; exact hx.1

theorem imp {Q' : α → List Token → List Diag → Prop} {x : SR α} (hx : SpecS Q ts x) (h : ∀ a r ds, Q a r ds → Q' a r ds) :
    SpecS Q' ts x := by
  cases x with
  | ok a r ds => exact ⟨h a r ds hx.1, hx.2⟩
  | err d => exact hx
  | abn a => exact hx

theorem mono {ts' : List Token} {x : SR α} (h : HasEOF ts → HasEOF ts') (hx : SpecS Q ts' x) : SpecS Q ts x := by
  cases x with
  | ok a r ds => exact ⟨hx.1, fun e => hx.2 (h e)⟩
  | err ds => exact hx
  | abn a => exact fun e => hx (h e)

theorem eat {t : Token} {r : List Token} {x : TT} {y : SR α} (ht : t.tt = x) (hy : SpecS Q r y)
    (hx : x ≠ .EOF := by decide) : SpecS Q (t :: r) y :=
  hy.mono fun e => e.tail (ht ▸ hx)

theorem bind {Q1 : α → List Token → List Diag → Prop} {Q : β → List Token → List Diag → Prop} {r : SR α}
    {k : α → List Token → SR β} (h1 : SpecS Q1 ts r)
    (h2 : ∀ a r1 d1, Q1 a r1 d1 → SpecS (fun b r2 d2 => Q b r2 (d1 ++ d2)) r1 (k a r1)) : SpecS Q ts (r.bind k) := by
  cases r with
  | ok a r1 d1 =>
    have hk := (h2 a r1 d1 h1.1).mono h1.2
    simp only [SR.bind]
    revert hk
    cases k a r1 with
    | ok b r2 d2 => exact id
    | err d2 => exact fun hk e => hk (List.append_eq_nil_iff.mp e).2
    | abn x => exact id
  | err d => exact h1
  | abn x => exact h1

/-- a step, then a constructor around its result -/
theorem map {Q1 : α → List Token → List Diag → Prop} {Q : β → List Token → List Diag → Prop} {x : SR α} {g : α → β}
    (h1 : SpecS Q1 ts x) (h2 : ∀ a r d, Q1 a r d → Q (g a) r d) : SpecS Q ts (x.bind fun a r => .ok (g a) r []) :=
  bind h1 fun a r1 d1 h => ok (by rw [List.append_nil]; exact h2 a r1 d1 h)

theorem peek {k : Token → List Token → SR α} (hk : ∀ t r, ts = t :: r → SpecS Q ts (k t r)) : SpecS Q ts (peekTokS ts k) := by
  cases ts with
  | nil => exact fun ⟨_, h, _⟩ => nomatch h
  | cons t r => exact hk t r rfl

theorem toSR {r : PR α} (h : Spec (fun a r1 => Q a r1 []) ts r) : SpecS Q ts r.toSR := by
  cases r with
  | ok a r1 => exact h
  | err d => exact err
  | abn x => exact h

theorem toSR_bind {Q1 : α → List Token → Prop} {Q : β → List Token → List Diag → Prop} {x : PR α} {k : α → List Token → SR β}
    (h1 : Spec Q1 ts x) (h2 : ∀ a r1, Q1 a r1 → SpecS Q r1 (k a r1)) : SpecS Q ts (x.toSR.bind k) :=
  bind (Q1 := fun a r d => Q1 a r ∧ d = []) (toSR (h1.imp fun _ _ h => ⟨h, rfl⟩)) fun a r1 _ ⟨h, hd⟩ => by
    subst hd
    exact h2 a r1 h

theorem not_panic {r : SR α} (h : SpecS Q ts r) (e : HasEOF ts) : r ≠ .abn .panic := by
  rintro rfl
  exact h e rfl

end SpecS

inductive VarInit : List Token → Option Expr → List Token → Prop
  | init {e r1 v r2} : e.tt = .EQUAL → Parses .assignment r1 v r2 → VarInit (e :: r1) (some v) r2
  | noInit {e r1} : e.tt ≠ .EQUAL → VarInit (e :: r1) none (e :: r1)

theorem spec_varInit (f : Nat) (r : List Token) :
    Spec (VarInit r) r (peekTok r fun e r1 =>
      if e.tt = .EQUAL then (assignment f r1).bind fun v r2 => .ok (some v) r2
      else .ok none r) := by
  refine .peek ?_
  rintro e r1 rfl
  exact ite_ind (fun he => .eat he (((specE f).asg r1).bind fun _ _ hv => .ok (.init he hv))) fun he => .ok (.noInit he)

/-- `il` is the line of the first name -/
inductive VarDecls (il : Nat) : List Token → List VarDecl → List Token → Prop
  | more {t r init p r3 rest r4} : t.tt = .IDENTIFIER → ¬ isReserved t.lexeme = true → VarInit r init (p :: r3) →
      ¬ (!isLiteralInit init && p.line ≠ il) = true → p.tt = .COMMA → VarDecls il r3 rest r4 →
      VarDecls il (t :: r) (⟨t.lexeme, t.line, init⟩ :: rest) r4
  | last {t r init p r3} : t.tt = .IDENTIFIER → ¬ isReserved t.lexeme = true → VarInit r init (p :: r3) →
      ¬ (!isLiteralInit init && p.line ≠ il) = true → p.tt ≠ .COMMA →
      VarDecls il (t :: r) [⟨t.lexeme, t.line, init⟩] (p :: r3)

theorem spec_varDecls : ∀ (f il : Nat) (ts : List Token), Spec (VarDecls il ts) ts (varDecls f il ts) := by
  intro f
  induction f with
  | zero => exact fun _ _ => .fuel
  | succ f ih =>
    intro il ts
    rw [varDecls]
    refine .peek ?_
    rintro t r rfl
    refine ite_ind (fun _ => .err) fun hid => ite_ind (fun _ => .err) fun hres =>
      .eat (Decidable.not_not.mp hid) ((spec_varInit f r).bind fun init r2 hinit => .peek ?_)
    rintro p r3 rfl
    refine ite_ind (fun _ => .err) fun hline => ite_ind (fun hc => .eat hc ?_) fun hc =>
      .ok (.last (Decidable.not_not.mp hid) hres hinit hline hc)
    exact (ih il r3).bind fun _ _ hrest => .ok (.more (Decidable.not_not.mp hid) hres hinit hline hc hrest)

/-- after the `ধরি` token -/
inductive VarDeclaration : List Token → Stmt → List Token → Prop
  | one {t0 r d sc r2} : VarDecls t0.line (t0 :: r) [d] (sc :: r2) → sc.tt = .SEMICOLON → VarDeclaration (t0 :: r) (.var d) r2
  | many {t0 r ds sc r2} : VarDecls t0.line (t0 :: r) ds (sc :: r2) → sc.tt = .SEMICOLON → (∀ d, ds = [d] → False) →
      VarDeclaration (t0 :: r) (.varList ds) r2

theorem spec_varDeclaration (f : Nat) (ts : List Token) :
    SpecS (fun s r ds => VarDeclaration ts s r ∧ ds = []) ts (varDeclaration f ts) := by
  refine .peek ?_
  rintro t0 r0 rfl
  refine .toSR ((spec_varDecls f t0.line _).bind fun vs _ hvs => .expect (hk := ?_))
  rintro sc r2 rfl hsc
  split
  · exact .ok ⟨.one hvs hsc, rfl⟩
  · next hnot => exact .ok ⟨.many hvs hsc hnot, rfl⟩

/-- `n` names were read before -/
inductive Params : Nat → List Token → List Name → List Token → Prop
  | more {n t c r2 rest r3} : ¬ n ≥ Expect.maxParams → t.tt = .IDENTIFIER → c.tt = .COMMA → Params (n + 1) r2 rest r3 →
      Params n (t :: c :: r2) (t.lexeme :: rest) r3
  | last {n t c r2} : ¬ n ≥ Expect.maxParams → t.tt = .IDENTIFIER → c.tt ≠ .COMMA → Params n (t :: c :: r2) [t.lexeme] (c :: r2)

theorem spec_params : ∀ (f n : Nat) (ts : List Token), Spec (Params n ts) ts (params f n ts) := by
  intro f
  induction f with
  | zero => exact fun _ _ => .fuel
  | succ f ih =>
    intro n ts
    rw [params]
    refine .peek ?_
    rintro t r rfl
    refine ite_ind (fun _ => .err) fun hn => ite_ind (fun _ => .err) fun hid => .eat (Decidable.not_not.mp hid) (.peek ?_)
    rintro c r2 rfl
    refine ite_ind (fun hc => .eat hc ?_) fun hc => .ok (.last hn (Decidable.not_not.mp hid) hc)
    exact (ih (n + 1) r2).bind fun _ _ hrest => .ok (.more hn (Decidable.not_not.mp hid) hc hrest)

theorem Params.ne_nil {n : Nat} {ts r : List Token} {ns : List Name} (h : Params n ts ns r) : ns ≠ [] := by
  cases h <;> simp

inductive OptExpr (stop : TT) : List Token → Option Expr → List Token → Prop
  | absent {c r} : c.tt = stop → OptExpr stop (c :: r) none (c :: r)
  | present {c r e r'} : c.tt ≠ stop → Parses .assignment (c :: r) e r' → OptExpr stop (c :: r) (some e) r'

theorem spec_optExprUntil (stop : TT) (f : Nat) (ts : List Token) : Spec (OptExpr stop ts) ts (optExprUntil stop f ts) := by
  refine .peek ?_
  rintro c r rfl
  exact ite_ind (fun hs => .ok (.absent hs)) fun hs => ((specE f).asg _).bind fun _ _ he => .ok (.present hs he)

inductive ExprThenSemi (mk : Expr → Stmt) : List Token → Stmt → List Token → List Diag → Prop
  | semi {ts e t r} : Parses .assignment ts e (t :: r) → t.tt = .SEMICOLON → ExprThenSemi mk ts (mk e) r []
  | noSemi {ts e t r} : Parses .assignment ts e (t :: r) → t.tt ≠ .SEMICOLON →
      ExprThenSemi mk ts (mk e) (t :: r) [errAt t "Expect ';' after value.".toList]

theorem spec_exprThenSemi (f : Nat) (mk : Expr → Stmt) (ts : List Token) :
    SpecS (ExprThenSemi mk ts) ts (exprThenSemi f mk ts) := by
  refine .toSR_bind ((specE f).asg ts) fun e r ha =>
    .map (Q1 := fun _ r2 ds => ExprThenSemi mk ts (mk e) r2 ds) (.peek ?_) fun _ _ _ h => h
  rintro t r2 rfl
  exact ite_ind (fun ht => .eat ht (.ok (.semi ha ht))) fun ht => .ok (.noSemi ha ht)

inductive ForInit : List Token → Option Stmt → List Token → List Diag → Prop
  | none {i r} : i.tt = .SEMICOLON → ForInit (i :: r) none r []
  | var {i r s r3} : i.tt = .VAR → VarDeclaration r s r3 → ForInit (i :: r) (some s) r3 []
  | expr {i r s r3 ds} : i.tt ≠ .SEMICOLON → i.tt ≠ .VAR → ExprThenSemi .expr (i :: r) s r3 ds → ForInit (i :: r) (some s) r3 ds

theorem spec_forInit (f : Nat) (ts : List Token) : SpecS (ForInit ts) ts (forInit f ts) := by
  refine .peek ?_
  rintro i r2 rfl
  refine ite_ind (fun hs => .eat hs (.ok (.none hs))) fun hs => ite_ind (fun hv => .eat hv ?_) fun hv => ?_
  · exact .map (spec_varDeclaration f r2) fun _ _ _ ⟨hd, hds⟩ => hds ▸ .var hv hd
  · exact .map (spec_exprThenSemi f .expr _) fun _ _ _ h => .expr hs hv h

/-- condition `;` increment `)` -/
theorem spec_forHeader (f : Nat) (r3 : List Token) :
    Spec (fun ci r7 => ∃ sc r5 rp, OptExpr .SEMICOLON r3 ci.1 (sc :: r5) ∧ sc.tt = .SEMICOLON ∧
      OptExpr .RIGHT_PAREN r5 ci.2 (rp :: r7) ∧ rp.tt = .RIGHT_PAREN) r3 (forHeader f r3) := by
  refine (spec_optExprUntil _ f r3).bind fun c _ hc => .expect (hk := ?_)
  rintro sc r5 rfl hsc
  refine (spec_optExprUntil _ f r5).bind fun i _ hi => .expect (hk := ?_)
  rintro rp r7 rfl hrp
  exact .ok ⟨_, _, _, hc, hsc, hi, hrp⟩

/-- `( condition )` after `যদি` / `যতক্ষণ` -/
theorem spec_cond (f : Nat) (m1 m2 : String) (r : List Token) :
    Spec (fun c r3 => ∃ lp r1 rp, r = lp :: r1 ∧ lp.tt = .LEFT_PAREN ∧ Parses .assignment r1 c (rp :: r3) ∧ rp.tt = .RIGHT_PAREN) r
      ((expectTok .LEFT_PAREN m1 r).bind fun _ r1 => (assignment f r1).bind fun c r2 =>
        (expectTok .RIGHT_PAREN m2 r2).bind fun _ r3 => .ok c r3) := by
  refine .expect (hk := ?_)
  rintro lp r1 rfl hlp
  refine ((specE f).asg r1).bind fun c _ hc => .expect (hk := ?_)
  rintro rp r3 rfl hrp
  exact .ok ⟨_, _, _, rfl, hlp, hc, hrp⟩

inductive FnS : Type
  | declaration | function | block | statement | program

@[reducible] def FnS.Out : FnS → Type
  | .block | .program => List Stmt
  | _ => Stmt

def FnS.run : (g : FnS) → Nat → List Token → SR g.Out
  | .declaration, f, ts => Parser.declaration f ts
  | .function, f, ts => Parser.function f ts
  | .block, f, ts => Parser.block f ts
  | .statement, f, ts => Parser.statement f ts
  | .program, f, ts => Parser.program f ts

inductive ParsesS : (g : FnS) → List Token → g.Out → List Token → List Diag → Prop
  | declFun {t r s r' ds} : t.tt = .FUN → ParsesS .function r s r' ds → ParsesS .declaration (t :: r) s r' ds
  | declVar {t r s r'} : t.tt = .VAR → VarDeclaration r s r' → ParsesS .declaration (t :: r) s r' []
  | declStmt {t r s r' ds} : t.tt ≠ .FUN → t.tt ≠ .VAR → ParsesS .statement (t :: r) s r' ds → ParsesS .declaration (t :: r) s r' ds
  | fun0 {t lp rp lb r4 body r5 ds} : t.tt = .IDENTIFIER → ¬ isReserved t.lexeme = true → lp.tt = .LEFT_PAREN →
      rp.tt = .RIGHT_PAREN → lb.tt = .LEFT_BRACE → ParsesS .block r4 body r5 ds →
      ParsesS .function (t :: lp :: rp :: lb :: r4) (.funS t.lexeme [] body) r5 ds
  | funN {t lp p r1 names rp lb r4 body r5 ds} : t.tt = .IDENTIFIER → ¬ isReserved t.lexeme = true → lp.tt = .LEFT_PAREN →
      p.tt ≠ .RIGHT_PAREN → Params 0 (p :: r1) names (rp :: lb :: r4) → rp.tt = .RIGHT_PAREN → lb.tt = .LEFT_BRACE →
      ParsesS .block r4 body r5 ds → ParsesS .function (t :: lp :: p :: r1) (.funS t.lexeme names body) r5 ds
  | blockEnd {t r} : t.tt = .RIGHT_BRACE → ParsesS .block (t :: r) [] r []
  | blockEof {t r} : t.tt = .EOF → ParsesS .block (t :: r) [] (t :: r) [errAt t "Expect '}' after block.".toList]
  | blockItem {t r s r1 d1 ss r2 d2} : t.tt ≠ .RIGHT_BRACE → t.tt ≠ .EOF → ParsesS .declaration (t :: r) s r1 d1 →
      ParsesS .block r1 ss r2 d2 → ParsesS .block (t :: r) (s :: ss) r2 (d1 ++ d2)
  | ifThen {t lp r1 c rp r3 th e r5 ds} : t.tt = .IF → lp.tt = .LEFT_PAREN → Parses .assignment r1 c (rp :: r3) →
      rp.tt = .RIGHT_PAREN → ParsesS .statement r3 th (e :: r5) ds → e.tt ≠ .ELSE →
      ParsesS .statement (t :: lp :: r1) (.ifS c th none) (e :: r5) ds
  | ifElse {t lp r1 c rp r3 th e r5 d1 el r6 d2} : t.tt = .IF → lp.tt = .LEFT_PAREN → Parses .assignment r1 c (rp :: r3) →
      rp.tt = .RIGHT_PAREN → ParsesS .statement r3 th (e :: r5) d1 → e.tt = .ELSE → ParsesS .statement r5 el r6 d2 →
      ParsesS .statement (t :: lp :: r1) (.ifS c th (some el)) r6 (d1 ++ d2)
  | whileS {t lp r1 c rp r3 b r4 ds} : t.tt = .WHILE → lp.tt = .LEFT_PAREN → Parses .assignment r1 c (rp :: r3) →
      rp.tt = .RIGHT_PAREN → ParsesS .statement r3 b r4 ds → ParsesS .statement (t :: lp :: r1) (.whileS c b) r4 ds
  | forS {t lp r1 init r3 d1 c sc r5 i rp r7 body r8 d2} : t.tt = .FOR → lp.tt = .LEFT_PAREN → ForInit r1 init r3 d1 →
      OptExpr .SEMICOLON r3 c (sc :: r5) → sc.tt = .SEMICOLON → OptExpr .RIGHT_PAREN r5 i (rp :: r7) → rp.tt = .RIGHT_PAREN →
      ParsesS .statement r7 body r8 d2 → ParsesS .statement (t :: lp :: r1) (.forS init c i body) r8 (d1 ++ d2)
  | print {t r s r' ds} : t.tt = .PRINT → ExprThenSemi .print r s r' ds → ParsesS .statement (t :: r) s r' ds
  | return0 {t sc r1} : t.tt = .RETURN → sc.tt = .SEMICOLON → ParsesS .statement (t :: sc :: r1) (.returnS t.line none) r1 []
  | returnV {t sc r1 v sm r3} : t.tt = .RETURN → sc.tt ≠ .SEMICOLON → Parses .assignment (sc :: r1) v (sm :: r3) →
      sm.tt = .SEMICOLON → ParsesS .statement (t :: sc :: r1) (.returnS t.line (some v)) r3 []
  | breakS {t sc r1} : t.tt = .BREAK → sc.tt = .SEMICOLON → ParsesS .statement (t :: sc :: r1) (.breakS sc.line) r1 []
  | continueS {t sc r1} : t.tt = .CONTINUE → sc.tt = .SEMICOLON → ParsesS .statement (t :: sc :: r1) (.continueS sc.line) r1 []
  | blockS {t r ss r1 ds} : t.tt = .LEFT_BRACE → ParsesS .block r ss r1 ds → ParsesS .statement (t :: r) (.block ss) r1 ds
  | exprS {t r s r' ds} : t.tt ∉ [TT.IF, .WHILE, .FOR, .PRINT, .RETURN, .BREAK, .CONTINUE, .LEFT_BRACE] →
      ExprThenSemi .expr (t :: r) s r' ds → ParsesS .statement (t :: r) s r' ds
  | progEnd {t r} : t.tt = .EOF → ParsesS .program (t :: r) [] (t :: r) []
  | progItem {t r s r1 d1 ss r2 d2} : t.tt ≠ .EOF → ParsesS .declaration (t :: r) s r1 d1 → ParsesS .program r1 ss r2 d2 →
      ParsesS .program (t :: r) (s :: ss) r2 (d1 ++ d2)

/-- the result types are written out for the reason given at `SpecE` -/
structure SpecSt (f : Nat) : Prop where
  decl : ∀ ts, SpecS (α := Stmt) (ParsesS .declaration ts) ts (declaration f ts)
  fn : ∀ ts, SpecS (α := Stmt) (ParsesS .function ts) ts (function f ts)
  blk : ∀ ts, SpecS (α := List Stmt) (ParsesS .block ts) ts (block f ts)
  stmt : ∀ ts, SpecS (α := Stmt) (ParsesS .statement ts) ts (statement f ts)

theorem specSt : ∀ f, SpecSt f := by
  intro f
  induction f with
  | zero => exact ⟨fun _ => .fuel, fun _ => .fuel, fun _ => .fuel, fun _ => .fuel⟩
  | succ f ih =>
    refine ⟨?_, ?_, ?_, ?_⟩
    · intro ts
      rw [declaration]
      refine .peek ?_
      rintro t r rfl
      refine ite_ind (fun hf => .eat hf ((ih.fn r).imp fun _ _ _ h => .declFun hf h)) fun hf => ite_ind (fun hv => .eat hv ?_) fun hv =>
        (ih.stmt _).imp fun _ _ _ h => .declStmt hf hv h
      exact (spec_varDeclaration f r).imp fun _ _ _ ⟨hd, hds⟩ => hds ▸ .declVar hv hd
    · intro ts
      rw [function]
      refine .peek ?_
      rintro t r rfl
      refine ite_ind (fun _ => .err) fun hid => ite_ind (fun _ => .err) fun hres => .eat (Decidable.not_not.mp hid) ?_
      -- the head yields the names and what is left to do once the body is there
      refine .toSR_bind (Q1 := fun names r4 => ∀ body r5 ds, ParsesS .block r4 body r5 ds →
        ParsesS .function (t :: r) (.funS t.lexeme names body) r5 ds) (.expect (hk := ?_)) fun _ r4 hfn =>
          .map (ih.blk r4) fun body r5 ds hb => hfn body r5 ds hb
      rintro lp r1 rfl hlp
      refine .bind (Q1 := fun names r2 => ∀ rp lb r4 body r5 ds, r2 = rp :: lb :: r4 → rp.tt = .RIGHT_PAREN → lb.tt = .LEFT_BRACE →
        ParsesS .block r4 body r5 ds → ParsesS .function (t :: lp :: r1) (.funS t.lexeme names body) r5 ds) (.peek ?_)
          fun _ _ hn => .expect (hk := ?_)
      · rintro p r1' rfl
        refine ite_ind (fun hp => .ok ?_) fun hp => (spec_params f 0 _).imp ?_
        · rintro rp lb r4 body r5 ds heq hrp hlb hb
          cases heq
          exact .fun0 (Decidable.not_not.mp hid) hres hlp hrp hlb hb
        · rintro names r2 hps rp lb r4 body r5 ds rfl hrp hlb hb
          exact .funN (Decidable.not_not.mp hid) hres hlp hp hps hrp hlb hb
      · rintro rp r3 rfl hrp
        refine .expect (hk := ?_)
        rintro lb r4 rfl hlb
        exact .ok fun body r5 ds hb => hn _ _ _ body r5 ds rfl hrp hlb hb
    · intro ts
      rw [block]
      refine .peek ?_
      rintro t r rfl
      refine ite_ind (fun hrb => .eat hrb (.ok (.blockEnd hrb))) fun hrb => ite_ind (fun heof => .ok (.blockEof heof)) fun heof => ?_
      exact (ih.decl _).bind fun _ r1 _ hs => .map (ih.blk r1) fun _ _ _ hss => .blockItem hrb heof hs hss
    · intro ts
      rw [statement]
      refine .peek ?_
      rintro t r rfl
      split
      · next ht =>
        refine .eat ht (.toSR_bind (spec_cond f _ _ r) ?_)
        rintro c r3 ⟨lp, r1, rp, rfl, hlp, hc, hrp⟩
        refine (ih.stmt r3).bind fun th _ _ hth => .peek ?_
        rintro e r5 rfl
        refine ite_ind (fun hel => .eat hel ?_) fun hel => .ok (by rw [List.append_nil]; exact .ifThen ht hlp hc hrp hth hel)
        exact .map (ih.stmt r5) fun _ _ _ h => .ifElse ht hlp hc hrp hth hel h
      · next ht =>
        refine .eat ht (.toSR_bind (spec_cond f _ _ r) ?_)
        rintro c r3 ⟨lp, r1, rp, rfl, hlp, hc, hrp⟩
        exact .map (ih.stmt r3) fun _ _ _ hb => .whileS ht hlp hc hrp hb
      · next ht =>
        refine .eat ht (.toSR_bind .expectTok ?_)
        rintro lp r1 ⟨rfl, hlp⟩
        refine (spec_forInit f r1).bind fun init r3 _ hinit => .toSR_bind (spec_forHeader f r3) ?_
        rintro ci r7 ⟨sc, r5, rp, hc, hsc, hi, hrp⟩
        exact .map (ih.stmt r7) fun _ _ _ hb => .forS ht hlp hinit hc hsc hi hrp hb
      · next ht => exact .eat ht ((spec_exprThenSemi f .print r).imp fun _ _ _ h => .print ht h)
      · next ht =>
        refine .eat ht (.toSR (.peek ?_))
        rintro sc r1 rfl
        refine ite_ind (fun hs => .eat hs (.ok (.return0 ht hs))) fun hs => ((specE f).asg _).bind fun _ _ hv => .expect (hk := ?_)
        rintro sm r3 rfl hsm
        exact .ok (.returnV ht hs hv hsm)
      · next ht =>
        refine .eat ht (.toSR (.expect (hk := ?_)))
        rintro sc r1 rfl hsc
        exact .ok (.breakS ht hsc)
      · next ht =>
        refine .eat ht (.toSR (.expect (hk := ?_)))
        rintro sc r1 rfl hsc
        exact .ok (.continueS ht hsc)
      · next ht => exact .eat ht (.map (ih.blk r) fun _ _ _ h => .blockS ht h)
      · next n1 n2 n3 n4 n5 n6 n7 n8 =>
        refine (spec_exprThenSemi f .expr _).imp fun _ _ _ h => .exprS ?_ h
        simp only [List.mem_cons, List.not_mem_nil, or_false, not_or]
        exact ⟨n1, n2, n3, n4, n5, n6, n7, n8⟩

theorem spec_program : ∀ (f : Nat) (ts : List Token), SpecS (ParsesS .program ts) ts (program f ts) := by
  intro f
  induction f with
  | zero => exact fun _ => .fuel
  | succ f ih =>
    intro ts
    rw [program]
    refine .peek ?_
    rintro t r rfl
    refine ite_ind (fun heof => .ok (.progEnd heof)) fun heof => ?_
    exact ((specSt f).decl _).bind fun _ r1 _ hs => .map (ih r1) fun _ _ _ hss => .progItem heof hs hss

theorem FnS.spec (f : Nat) : ∀ (g : FnS) (ts : List Token), SpecS (ParsesS g ts) ts (g.run f ts)
  | .declaration, ts => (specSt f).decl ts
  | .function, ts => (specSt f).fn ts
  | .block, ts => (specSt f).blk ts
  | .statement, ts => (specSt f).stmt ts
  | .program, ts => spec_program f ts

theorem parsesS_of_run (f : Nat) (g : FnS) {ts : List Token} {a : g.Out} {r : List Token} {ds : List Diag}
    (h : g.run f ts = .ok a r ds) : ParsesS g ts a r ds :=
  (g.spec f ts).of_ok h

end Borno.Parser
