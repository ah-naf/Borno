import BornoModel.Props.C09
import BornoModel.Props.C10
/-!
# LexInsert — a scanning step looks at most two characters past what it consumes

`Compat lm c used Y`: the unread text `Y` would have let the step that consumed `used` (starting
with `c`) end in the same place; replacing the unread rest by such a `Y` leaves the step unchanged.
Hence a piece of trivia inserted after a closed step changes no token and no diagnostic.
-/
namespace Borno.Lexer
open ListAux Props.C09 Props.C10

theorem scanNumber_congr {c : Char} {r r' : List Char} (h1 : r'.takeWhile isDigit = r.takeWhile isDigit)
    (h2 : (numFrac (r'.dropWhile isDigit)).1 = (numFrac (r.dropWhile isDigit)).1) (line : Nat) :
    scanNumber c r' line = { scanNumber c r line with rest := (numFrac (r'.dropWhile isDigit)).2 } := by
  unfold scanNumber
  simp only [h1, h2]
  split <;> rfl

theorem scanNumber_swap {c : Char} (hc : isDigit c = true) (r : List Char) (line : Nat) {Y : List Char}
    (hY : headSat (fun y => !isDigit y) Y = true) (hf : '.' ∈ (scanNumber c r line).used ∨ noFrac Y = true) :
    scanNumber c (r.takeWhile isDigit ++ (numFrac (r.dropWhile isDigit)).1 ++ Y) line =
      { scanNumber c r line with rest := Y } := by
  rcases numFrac_cases (r.dropWhile isDigit) with ⟨_, e⟩ | ⟨d, r', _, hd, e⟩
  · have hnf : noFrac Y = true := hf.resolve_left fun hm => by
      rw [(number_lexeme_shape c r line).1, e, List.append_nil] at hm
      have : isDigit '.' = true := by
        rcases List.mem_cons.mp hm with h | h
        · exact h ▸ hc
        · exact takeWhile_forall isDigit r _ h
      rw [dot_not_digit] at this; cases this
    obtain ⟨h1, h2⟩ := takeWhile_stop (p := isDigit) r hY
    have h3 : numFrac Y = ([], Y) := (numFrac_cases Y).elim (·.2) fun ⟨_, _, hl, hd, _⟩ => by simp [hl, noFrac, hd] at hnf
    rw [e, List.append_nil, scanNumber_congr (r := r) h1 (by rw [h2, h3, e]), h2, h3]
  · obtain ⟨h1, h2⟩ := takeWhile_stop (p := isDigit) r (Y := '.' :: d :: (r'.takeWhile isDigit ++ Y)) (by simp [headSat, dot_not_digit])
    obtain ⟨h3, h4⟩ := takeWhile_stop (p := isDigit) r' hY
    have h5 : numFrac ('.' :: d :: (r'.takeWhile isDigit ++ Y)) = ('.' :: d :: r'.takeWhile isDigit, Y) := by
      simp [numFrac, hd, h3, h4]
    rw [e, List.append_assoc, List.cons_append, List.cons_append, scanNumber_congr (r := r) h1 (by rw [h2, h5, e]), h2, h5]

theorem headSat_nl (Y : List Char) : headSat (fun y => !notNl y) Y = headSat (fun y => y == '\n') Y := by
  cases Y <;> simp [headSat, notNl]

/-- `hlive` excludes only an unterminated string or comment: no token, a diagnostic, nothing left -/
theorem scanToken_swap' (lm : Char → Bool) (c : Char) (r : List Char) (line : Nat) (st : Step)
    (h : scanToken lm (c :: r) line = some st) (hlive : st.tok.isSome = true ∨ st.diag = none ∨ st.rest ≠ [])
    (Y : List Char) (hY : Compat lm c st.used Y) :
    scanToken lm (st.used ++ Y) line = some { st with rest := Y } := by
  cases lead lm c with
  | single tt _ scan => rw [scan] at h; cases h; exact scan Y line
  | two alts dflt _ scan compat =>
    rw [scan] at h; cases h
    rcases scanTwo_cases c alts dflt r with ⟨_, e⟩ | ⟨d, r', tt, rfl, hl, e⟩
    · rw [e] at hY ⊢
      have hY' := ((compat _ _).mp hY).resolve_left (by simp [plainTok])
      exact (scan Y line).trans (by rw [scanTwo_none hY']; rfl)
    · rw [e]
      exact (scan (d :: Y) line).trans (by simp [scanTwo, hl, plainTok])
  | slash hc scan compat =>
    subst hc
    rw [scan] at h; cases h
    rcases scanSlash_cases r with ⟨_, e⟩ | ⟨r', rfl, e⟩ | ⟨r', u, rest, rfl, hb, e⟩ | ⟨r', u, rfl, hb, e⟩
    · rw [e] at hY ⊢
      have hY' := (compat _ _).mp hY
      exact (scan Y line).trans (by rw [scanSlash_tok hY']; rfl)
    · rw [e] at hY ⊢
      obtain ⟨h1, h2⟩ := takeWhile_stop r' ((headSat_nl Y).trans ((compat _ _).mp hY))
      exact (scan ('/' :: (r'.takeWhile notNl ++ Y)) line).trans (by simp [scanSlash, h1, h2])
    · rw [e]
      exact (scan ('*' :: (u ++ Y)) line).trans (by simp [scanSlash, blockComment_swap r' Y hb])
    · rw [e] at hlive; simp at hlive
  | blank _ scan => rw [scan] at h; cases h; exact scan Y line
  | newline _ scan => rw [scan] at h; cases h; exact scan Y line
  | quote hc scan =>
    subst hc
    rw [scan] at h
    rcases scanString_cases r with ⟨_, e⟩ | ⟨rest, _, e⟩
    · rw [e] at h; cases h; simp at hlive
    · rw [e] at h; cases h
      obtain ⟨h1, h2⟩ := takeWhile_stop (p := notQuote) r (Y := '"' :: Y) rfl
      exact (scan (r.takeWhile notQuote ++ ['"'] ++ Y) line).trans (by simp [scanString, h1, h2])
  | digit hc scan compat =>
    rw [scan, Option.some.injEq] at h; subst h
    obtain ⟨hY1, hY2⟩ := (compat _ _).mp hY
    refine .trans ?_ (congrArg some (scanNumber_swap hc r line hY1 hY2))
    rw [(number_lexeme_shape c r line).1]
    exact scan _ line
  | word _ _ scan compat =>
    rw [scan] at h; cases h
    obtain ⟨h1, h2⟩ := takeWhile_stop r ((compat _ _).mp hY)
    exact (scan (r.takeWhile (isAlphaNum lm) ++ Y) line).trans (by simp [scanWord, plainTok, h1, h2])
  | other _ scan => rw [scan] at h; cases h; exact scan Y line

/-- **a scanning step depends on the unread text only through `Compat`**: replace what follows the
    consumed text by any `Y` that is compatible, and the step is the same — same token, same
    diagnostic, same consumed text, same line -/
theorem scanToken_swap (lm : Char → Bool) (c : Char) (r : List Char) (line : Nat) (st : Step)
    (h : scanToken lm (c :: r) line = some st) (hlive : st.rest ≠ [] ∨ st.tok.isSome = true)
    (Y : List Char) (hY : Compat lm c st.used Y) :
    scanToken lm (st.used ++ Y) line = some { st with rest := Y } :=
  scanToken_swap' lm c r line st h (hlive.elim (.inr ∘ .inr) .inl) Y hY

theorem compat_self (lm : Char → Bool) (c : Char) (r : List Char) (line : Nat) (st : Step)
    (h : scanToken lm (c :: r) line = some st) : Compat lm c st.used st.rest := by
  cases lead lm c with
  | two alts dflt _ scan compat =>
    rw [scan] at h; cases h
    rw [compat]
    rcases scanTwo_cases c alts dflt r with ⟨hr, e⟩ | ⟨d, r', tt, rfl, _, e⟩
    · rw [e]; exact .inr hr
    · rw [e]; exact .inl rfl
  | slash hc scan compat =>
    subst hc
    rw [scan] at h; cases h
    rw [compat]
    rcases scanSlash_cases r with ⟨hr, e⟩ | ⟨r', rfl, e⟩ | ⟨r', u, rest, rfl, _, e⟩ | ⟨r', u, rfl, _, e⟩
    · rw [e]; exact hr
    · rw [e]; exact (headSat_nl _).symm.trans (headSat_dropWhile notNl r')
    · rw [e]; trivial
    · rw [e]; trivial
  | digit _ scan compat =>
    rw [scan, Option.some.injEq] at h; subst h
    rw [compat, (number_lexeme_shape c r line).1, (number_lexeme_shape c r line).2]
    rcases numFrac_cases (r.dropWhile isDigit) with ⟨hnf, e⟩ | ⟨d, r', _, _, e⟩
    · rw [e]; exact ⟨headSat_dropWhile isDigit r, .inr hnf⟩
    · rw [e]; exact ⟨headSat_dropWhile isDigit r', .inl (by simp)⟩
  | word _ _ scan compat =>
    rw [scan] at h; cases h
    rw [compat]; exact headSat_dropWhile (isAlphaNum lm) r
  | _ => exact ‹∀ used Y, Compat lm c used Y› _ _

theorem headSat_cons (p : Char → Bool) (a : Char) (R Y : List Char) : headSat p (a :: R) = headSat p (a :: Y) := rfl

theorem noFrac_cons {a : Char} (h : a ≠ '.') (Y : List Char) : noFrac (a :: Y) = true := by
  unfold noFrac
  split
  · rename_i heq; exact absurd (List.cons.inj heq).1 h
  · rfl

theorem noFrac_transfer (a : Char) (R Y : List Char) (h : noFrac (a :: R) = true)
    (hw : R.head? = Y.head? ∨ headSat (fun y => !isDigit y) Y = true) : noFrac (a :: Y) = true := by
  by_cases ha : a = '.'
  · subst ha
    cases Y with
    | nil => rfl
    | cons y ys =>
      rcases hw with hw | hw
      · cases R with
        | nil => cases hw
        | cons x xs => cases hw; exact h
      · simpa [noFrac, headSat] using hw
  · exact noFrac_cons ha Y

/-- compatibility looks at the first character of the unread text — and, for a number without
    fraction, at whether a digit follows a point -/
theorem compat_head (lm : Char → Bool) (c a : Char) (used R Y : List Char) (h : Compat lm c used (a :: R))
    (hw : R.head? = Y.head? ∨ headSat (fun y => !isDigit y) Y = true) : Compat lm c used (a :: Y) := by
  cases lead lm c with
  | two _ _ _ _ compat => rw [compat] at h ⊢; exact h
  | slash _ _ compat => rw [compat] at h ⊢; exact h
  | digit _ _ compat => rw [compat] at h ⊢; exact ⟨h.1, h.2.imp id fun hn => noFrac_transfer a R Y hn hw⟩
  | word _ _ _ compat => rw [compat] at h ⊢; exact h
  | _ => exact ‹∀ used Y, Compat lm c used Y› _ _

/-- the first character of a piece of trivia: a blank, a line break, or the `/` of a comment -/
def isGap' (b : Char) : Prop := b = ' ' ∨ b = '\t' ∨ b = '\r' ∨ b = '\n' ∨ b = '/'

theorem gap_facts (b : Char) (hb : isGap' b) : isDigit b = false ∧ b ≠ '.' ∧ b ≠ '*' ∧ b ≠ '_' ∧ b ∈ [' ', '\t', '\r', '\n', '/'] := by
  rcases hb with rfl | rfl | rfl | rfl | rfl <;> decide

/-- a step after which trivia may be inserted: a token that is not `/` when the trivia is a comment,
    a blank, a line break, or a terminated block comment — not a line comment (it runs to the end of
    the line) and nothing unterminated -/
def Closed (b : Char) (st : Step) : Prop :=
  (st.tok.isSome = true ∧ (b = '/' → st.used ≠ ['/'])) ∨
  (st.tok = none ∧ st.diag = none ∧ ¬ (∃ u, st.used = '/' :: '/' :: u))

theorem compat_closed (lm : Char → Bool) (c : Char) (r : List Char) (line : Nat) (st : Step)
    (h : scanToken lm (c :: r) line = some st) (b : Char) (hb : isGap' b) (hlm : lm b = false)
    (hcl : Closed b st) (Z : List Char) : Compat lm c st.used (b :: Z) := by
  obtain ⟨hbd, hbdot, hbst, hbu, hbm⟩ := gap_facts b hb
  cases lead lm c with
  | two alts dflt h2 _ compat =>
    rw [compat]
    exact .inr (by simp [headSat, (tables.2.1 _ (lookup_mem h2)).2.2.2 b hbm])
  | slash hc scan compat =>
    subst hc
    rw [scan] at h; cases h
    rw [compat]
    rcases scanSlash_cases r with ⟨_, e⟩ | ⟨r', rfl, e⟩ | ⟨r', u, rest, rfl, _, e⟩ | ⟨r', u, rfl, _, e⟩
    · rw [e] at hcl ⊢
      rcases hcl with ⟨_, hns⟩ | ⟨ht, _⟩
      · have : b ≠ '/' := fun e => hns e rfl
        simp [plainTok, headSat, this, hbst]
      · cases ht
    · rw [e] at hcl
      rcases hcl with ⟨ht, _⟩ | ⟨_, _, hnl⟩
      · cases ht
      · exact absurd ⟨_, rfl⟩ hnl
    · rw [e]; trivial
    · rw [e]; trivial
  | digit _ _ compat => rw [compat]; exact ⟨by simp [headSat, hbd], .inr (noFrac_cons hbdot Z)⟩
  | word _ _ _ compat => rw [compat]; simp [headSat, isAlphaNum, isAlpha, hlm, hbu, hbd]
  | _ => exact ‹∀ used Y, Compat lm c used Y› _ _

/-- `A` is a prefix of the text that the scanner consumes in whole steps, the last of which yields a token:
    the position between `A` and `B` is *immediately after a token* -/
inductive AfterToken (lm : Char → Bool) : List Char → List Char → Nat → Prop
  | here {A B : List Char} {line : Nat} {st : Step} :
      scanToken lm (A ++ B) line = some st → st.used = A → st.tok.isSome = true → AfterToken lm A B line
  | later {A A' B : List Char} {line : Nat} {st : Step} :
      scanToken lm (A ++ B) line = some st → A = st.used ++ A' → A' ≠ [] → AfterToken lm A' B st.line → AfterToken lm A B line

/-- `A` is consumed in whole steps, the last of which satisfies `P` -/
inductive AfterStep (lm : Char → Bool) (P : Step → Prop) : List Char → List Char → Nat → Prop
  | here {A B : List Char} {line : Nat} {st : Step} :
      scanToken lm (A ++ B) line = some st → st.used = A → P st → AfterStep lm P A B line
  | later {A A' B : List Char} {line : Nat} {st : Step} :
      scanToken lm (A ++ B) line = some st → A = st.used ++ A' → A' ≠ [] → AfterStep lm P A' B st.line → AfterStep lm P A B line

theorem AfterStep.mono {lm : Char → Bool} {P Q : Step → Prop} (hpq : ∀ st, P st → Q st) {A B : List Char} {line : Nat}
    (h : AfterStep lm P A B line) : AfterStep lm Q A B line := by
  induction h with
  | here h1 h2 h3 => exact .here h1 h2 (hpq _ h3)
  | later h1 h2 h3 _ ih => exact .later h1 h2 h3 ih

theorem AfterToken.afterStep {lm : Char → Bool} {A B : List Char} {line : Nat} (h : AfterToken lm A B line) :
    AfterStep lm (fun st => st.tok.isSome = true) A B line := by
  induction h with
  | here h1 h2 h3 => exact .here h1 h2 h3
  | later h1 h2 h3 _ ih => exact .later h1 h2 h3 ih

def shiftTok (k : Nat) (t : Token) : Token := { t with line := t.line + k }

def shiftDiag (k : Nat) : Diag → Diag
  | .static line w m => .static (line + k) w m
  | .runtime m line => .runtime m (line + k)

def shiftStep (k : Nat) (st : Step) : Step :=
  ⟨st.tok.map (shiftTok k), st.diag.map (shiftDiag k), st.used, st.rest, st.line + k⟩

theorem scanToken_shift (lm : Char → Bool) (src : List Char) (line k : Nat) :
    scanToken lm src (line + k) = (scanToken lm src line).map (shiftStep k) := by
  cases src with
  | nil => rfl
  | cons c r =>
    cases lead lm c with
    | single _ _ scan => rw [scan, scan]; rfl
    | two alts dflt _ scan =>
      rw [scan, scan]
      rcases scanTwo_cases c alts dflt r with ⟨_, e⟩ | ⟨_, _, _, _, _, e⟩ <;> rw [e, e] <;> rfl
    | slash hc scan =>
      subst hc
      rw [scan, scan]
      rcases scanSlash_cases r with ⟨_, e⟩ | ⟨_, _, e⟩ | ⟨_, _, _, _, _, e⟩ | ⟨_, _, _, _, e⟩ <;> rw [e, e] <;>
        simp [shiftStep, shiftDiag, plainTok, shiftTok, Nat.add_right_comm]
    | blank _ scan => rw [scan, scan]; rfl
    | newline _ scan => rw [scan, scan]; simp [shiftStep, Nat.add_right_comm]
    | quote _ scan =>
      rw [scan, scan]
      rcases scanString_cases r with ⟨_, e⟩ | ⟨_, _, e⟩ <;> rw [e, e] <;>
        simp [shiftStep, shiftDiag, shiftTok, Nat.add_right_comm]
    | digit _ scan =>
      rw [scan, scan]
      unfold scanNumber
      simp only
      split <;> rfl
    | word _ _ scan => rw [scan, scan]; rfl
    | other _ scan => rw [scan, scan]; rfl

theorem scanLoop_shift (lm : Char → Bool) (k : Nat) : ∀ (f : Nat) (src : List Char) (line : Nat),
    scanLoop lm f src (line + k) = (scanLoop lm f src line).map fun p => (p.1.map (shiftTok k), p.2.map (shiftDiag k))
  | 0, _, _ => by rw [scanLoop_zero, scanLoop_zero]; rfl
  | f + 1, [], line => by simp [scanLoop_nil, shiftTok]
  | f + 1, c :: r, line => by
    cases hst : scanToken lm (c :: r) line with
    | none => rw [scanLoop, scanLoop, scanToken_shift, hst]; rfl
    | some st =>
      have hst' : scanToken lm (c :: r) (line + k) = some (shiftStep k st) := by rw [scanToken_shift, hst]; rfl
      rw [scanLoop_succ hst, scanLoop_succ hst']
      show Option.map _ (scanLoop lm f st.rest (st.line + k)) = _
      rw [scanLoop_shift lm k f st.rest st.line]
      cases scanLoop lm f st.rest st.line with
      | none => rfl
      | some p => simp [shiftStep, Option.toList_map]

/-- a token without its line; a diagnostic without its line -/
def tokShape (t : Token) : TT × List Char × Lit := (t.tt, t.lexeme, t.lit)

def diagShape : Diag → List Char × List Char
  | .static _ w m => (w, m)
  | .runtime m _ => ([], m)

theorem tokShape_shift (k : Nat) (t : Token) : tokShape (shiftTok k t) = tokShape t := rfl

theorem diagShape_shift (k : Nat) (d : Diag) : diagShape (shiftDiag k d) = diagShape d := by
  cases d <;> rfl

theorem shift_zero (ts : List Token) (ds : List Diag) : ts.map (shiftTok 0) = ts ∧ ds.map (shiftDiag 0) = ds :=
  ⟨List.map_id'' (fun _ => rfl) ts, List.map_id'' (fun d => by cases d <;> rfl) ds⟩

theorem scanLoop_inv {lm : Char → Bool} (hlm : lm '\n' = false) {f : Nat} {src R : List Char} {line : Nat} {st : Step}
    {toks : List Token} {ds : List Diag} (hst : scanToken lm src line = some st) (hsrc : src = st.used ++ R)
    (h : scanLoop lm f src line = some (toks, ds)) :
    ∃ c r f' ts dd, scanToken lm (c :: r) line = some st ∧ st.rest = R ∧ f = f' + 1 ∧
      scanLoop lm f' R st.line = some (ts, dd) ∧ toks = st.tok.toList ++ ts ∧ ds = st.diag.toList ++ dd := by
  cases src with
  | nil => cases hst
  | cons c r =>
    have hrest : st.rest = R := List.append_cancel_left ((stepOk_of_scan hlm hst).split.trans hsrc)
    cases f with
    | zero => rw [scanLoop_zero] at h; cases h
    | succ f' =>
      rw [scanLoop_succ hst, hrest] at h
      obtain ⟨⟨ts, dd⟩, hrec, he⟩ := Option.map_eq_some_iff.mp h
      cases he
      exact ⟨c, r, f', ts, dd, hst, hrest, rfl, hrec, rfl, rfl⟩

theorem scanLoop_mono {lm : Char → Bool} (k : Nat) : ∀ {f : Nat} {src : List Char} {line : Nat} {out : List Token × List Diag},
    scanLoop lm f src line = some out → scanLoop lm (f + k) src line = some out
  | 0, _, _, _, h => by rw [scanLoop_zero] at h; cases h
  | f + 1, [], line, _, h => by rw [Nat.add_right_comm, scanLoop_nil]; rwa [scanLoop_nil] at h
  | f + 1, c :: r, line, _, h => by
    cases hst : scanToken lm (c :: r) line with
    | none => rw [scanLoop, hst] at h; cases h
    | some st =>
      rw [scanLoop_succ hst] at h
      obtain ⟨p, hrec, he⟩ := Option.map_eq_some_iff.mp h
      rw [Nat.add_right_comm, scanLoop_succ hst, scanLoop_mono k hrec, ← he]; rfl

theorem scanLoop_swap {lm : Char → Bool} {c : Char} {r : List Char} {line : Nat} {st : Step}
    (hst : scanToken lm (c :: r) line = some st) (hlive : st.tok.isSome = true ∨ st.diag = none ∨ st.rest ≠ [])
    {Y : List Char} (hY : Compat lm c st.used Y) (f : Nat) :
    scanLoop lm (f + 1) (st.used ++ Y) line =
      (scanLoop lm f Y st.line).map fun p => (st.tok.toList ++ p.1, st.diag.toList ++ p.2) :=
  scanLoop_succ (scanToken_swap' lm c r line st hst hlive Y hY) f

/-- **a piece of trivia `b :: T'` (one scanning step producing nothing) inserted after a closed step**:
    the output up to there is unchanged, and what follows has its lines moved down by the line breaks
    of the piece -/
theorem piece_after_step (lm : Char → Bool) (hlm : lm '\n' = false) (b : Char) (T' : List Char) (hb : isGap' b) (hlmb : lm b = false)
    {A B : List Char} {line : Nat}
    (hT : ∀ l, scanToken lm ((b :: T') ++ B) l = some ⟨none, none, b :: T', B, l + countNl (b :: T')⟩)
    (hat : AfterStep lm (Closed b) A B line) :
    ∀ (f : Nat) (toks : List Token) (ds : List Diag), scanLoop lm f (A ++ B) line = some (toks, ds) →
      ∃ t₁ t₂ d₁ d₂, toks = t₁ ++ t₂ ∧ ds = d₁ ++ d₂ ∧
        scanLoop lm (f + 1) (A ++ (b :: T') ++ B) line =
          some (t₁ ++ t₂.map (shiftTok (countNl (b :: T'))), d₁ ++ d₂.map (shiftDiag (countNl (b :: T')))) := by
  induction hat with
  | @here A B line st hst hused hP =>
    intro f toks ds h
    obtain ⟨c, r, f', ts, dd, hst, -, rfl, hrec, rfl, rfl⟩ := scanLoop_inv hlm hst (by rw [hused]) h
    have hsw := scanLoop_swap hst (hP.elim (.inl ·.1) (.inr <| .inl ·.2.1)) (compat_closed lm c r line st hst b hb hlmb hP (T' ++ B)) (f' + 1)
    rw [hused] at hsw
    refine ⟨_, ts, _, dd, rfl, rfl, ?_⟩
    rw [List.append_assoc, List.cons_append, hsw, ← List.cons_append, scanLoop_succ (hT st.line), scanLoop_shift, hrec]
    rfl
  | @later A A' B line st hst hA hne _ ih =>
    intro f toks ds h
    obtain ⟨c, r, f', ts, dd, hst, hrest, rfl, hrec, rfl, rfl⟩ := scanLoop_inv hlm hst (by rw [hA, List.append_assoc]) h
    obtain ⟨t₁, t₂, d₁, d₂, rfl, rfl, ih⟩ := ih hT f' ts dd hrec
    obtain ⟨a, A'', rfl⟩ := List.exists_cons_of_ne_nil hne
    have hcomp : Compat lm c st.used (a :: (A'' ++ (b :: T') ++ B)) := by
      have hself := compat_self lm c r line st hst
      rw [hrest] at hself
      refine compat_head lm c a st.used (A'' ++ B) _ hself ?_
      cases A'' with
      | nil => exact .inr (by simp [headSat, (gap_facts b hb).1])
      | cons x xs => exact .inl rfl
    have hsw := scanLoop_swap hst (.inr (.inr (by rw [hrest]; simp))) hcomp (f' + 1)
    refine ⟨st.tok.toList ++ t₁, t₂, st.diag.toList ++ d₁, d₂, by simp, by simp, ?_⟩
    have htext : A ++ (b :: T') ++ B = st.used ++ a :: (A'' ++ (b :: T') ++ B) := by rw [hA]; simp
    rw [htext, hsw, ← List.cons_append, ← List.cons_append, ih]
    simp

/-- the same for `scan`, whose fuel is the length of the text -/
theorem scan_insert_trivia (lm : Char → Bool) (hlm : lm '\n' = false) (b : Char) (T' : List Char) (hb : isGap' b) (hlmb : lm b = false)
    (A B : List Char) (toks : List Token) (ds : List Diag)
    (hT : ∀ l, scanToken lm ((b :: T') ++ B) l = some ⟨none, none, b :: T', B, l + countNl (b :: T')⟩)
    (hat : AfterStep lm (Closed b) A B 1)
    (h : scan lm (A ++ B) = some (toks, ds)) :
    ∃ t₁ t₂ d₁ d₂, toks = t₁ ++ t₂ ∧ ds = d₁ ++ d₂ ∧
      scan lm (A ++ (b :: T') ++ B) =
        some (t₁ ++ t₂.map (shiftTok (countNl (b :: T'))), d₁ ++ d₂.map (shiftDiag (countNl (b :: T')))) := by
  obtain ⟨t₁, t₂, d₁, d₂, ht, hd, h'⟩ := piece_after_step lm hlm b T' hb hlmb hT hat _ toks ds h
  refine ⟨t₁, t₂, d₁, d₂, ht, hd, ?_⟩
  rw [← scanLoop_mono T'.length h']
  unfold scan
  congr 1
  simp only [List.length_append, List.length_cons]
  omega

end Borno.Lexer
