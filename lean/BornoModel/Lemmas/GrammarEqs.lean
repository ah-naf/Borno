import BornoModel.Grammar
/-!
# GrammarEqs — facts about the grammar's definitions alone

What `levelOf`, `fits`, `mkBin` and the renderers `rExpr`, `rList`, `rProps`, `headTT` do, with no
parsing function involved; both directions (what the parser returns, what it accepts) rest on these.
-/
namespace Borno.Parser
open Grammar

theorem levelOf_ops : ∀ k, k < nLevels → ∀ tt ∈ levelOps k, levelOf tt = some k := by decide

theorem levelOf_mem {op : TT} {k : Nat} (h : levelOf op = some k) : k < nLevels ∧ (levelOps k).contains op = true := by
  obtain ⟨hk, hc, _⟩ := List.findIdx?_eq_some_iff_getElem.mp h
  exact ⟨hk, by rw [levelOps, List.getElem?_eq_getElem hk]; exact hc⟩

/-- the tightest grammar position at which a node of this form can stand -/
def posOf : Expr → Nat
  | .assign .. | .arrayAssign .. | .propAssign .. => 0
  | .binary _ op _ _ | .logical _ op _ => match levelOf op with
    | some j => j + 1
    | none => 0
  | .unary .. => nLevels + 1
  | _ => nLevels + 2

/-- `fits k e` depends on `k` only through the position of the root -/
theorem fits_iff {k : Nat} {e : Expr} : fits k e = true ↔ k ≤ posOf e ∧ fits 0 e = true := by
  cases e <;> simp only [fits, posOf, Bool.and_eq_true, decide_eq_true_eq, beq_iff_eq, Nat.zero_le, Nat.le_zero_eq, true_and, and_true,
    and_assoc]
  case binary | logical =>
    cases levelOf ‹TT› <;> simp only [Bool.and_eq_true, decide_eq_true_eq, true_and, and_assoc, Bool.false_eq_true, and_false]

theorem fits_up {k k' : Nat} {e : Expr} (hk : k' ≤ posOf e) (h : fits k e = true) : fits k' e = true :=
  fits_iff.2 ⟨hk, (fits_iff.1 h).2⟩

theorem fits_mono {e : Expr} {k k' : Nat} (h : fits k e = true) (hk : k' ≤ k) : fits k' e = true :=
  fits_up (Nat.le_trans hk (fits_iff.1 h).1) h

theorem fits_mkBin {k : Nat} {l r : Expr} {t : Token} (hk : k < nLevels) (ht : (levelOps k).contains t.tt = true)
    (hl : fits (k + 1) l = true) (hr : fits (k + 2) r = true) : fits (k + 1) (mkBin k l t r) = true := by
  have hlev := levelOf_ops k hk t.tt (by simpa using ht)
  unfold mkBin
  cases hn : levelNode k <;> simp [fits, hlev, hn, hl, hr]

theorem rExpr_mkBin (k : Nat) (l r : Expr) (t : Token) : rExpr (mkBin k l t r) = rExpr l ++ kw t.tt :: rExpr r := by
  unfold mkBin
  cases levelNode k <;> simp [rExpr]

theorem rList_single (a : Expr) : rList [a] = rExpr a := by simp [rList]

theorem rProps_single (k : Name) (e : Expr) : rProps [(k, e)] = idt k :: kw .COLON :: rExpr e := by simp [rProps]

theorem headTT_mkBin (k : Nat) (l r : Expr) (t : Token) : headTT (mkBin k l t r) = headTT l := by
  unfold mkBin
  cases levelNode k <;> rfl

theorem rExpr_head : ∀ e : Expr, ∃ y ys, rExpr e = y :: ys ∧ y.tt = headTT e
  | .literal .. | .ident .. | .grouping .. | .unary .. | .arrayLit .. | .objectLit .. | .assign .. => ⟨_, _, rfl, rfl⟩
  | .binary l .. | .logical l .. | .call l .. | .arrayAccess l .. | .propAccess l .. | .arrayAssign l .. | .propAssign l .. => by
    obtain ⟨y, ys, h1, h2⟩ := rExpr_head l
    exact ⟨y, _, by rw [rExpr, h1]; rfl, h2⟩

end Borno.Parser
