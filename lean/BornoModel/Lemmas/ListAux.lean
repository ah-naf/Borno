/-! Facts about `takeWhile`, `dropWhile`, `getElem?` and association lists (`lookup`) in the form the proofs use them -/
namespace Borno.ListAux

theorem takeWhile_forall {α : Type} (p : α → Bool) (l : List α) : ∀ x ∈ l.takeWhile p, p x = true :=
  List.all_eq_true.mp List.all_takeWhile

theorem dropWhile_head {α : Type} (p : α → Bool) (l : List α) (q : α) (rest : List α)
    (h : l.dropWhile p = q :: rest) : p q = false := by
  have := List.head?_dropWhile_not p l
  rwa [h] at this

theorem getElem?_append_of_some {α : Type} {l : List α} {i : Nat} {a : α} (h : l[i]? = some a) (ex : List α) :
    (l ++ ex)[i]? = some a := by
  rw [List.getElem?_append_left (List.getElem?_eq_some_iff.mp h).1]; exact h

theorem lookup_mem {α β : Type} [BEq α] [LawfulBEq α] {l : List (α × β)} {k : α} {v : β} (h : l.lookup k = some v) :
    (k, v) ∈ l := by
  obtain ⟨l₁, l₂, rfl, _⟩ := List.lookup_eq_some_iff.mp h
  simp

theorem lookup_cons_eq {α β : Type} [BEq α] [LawfulBEq α] (k : α) (v : β) (ps : List (α × β)) :
    List.lookup k ((k, v) :: ps) = some v :=
  List.lookup_cons_self

section
variable {α β : Type} [BEq α] [LawfulBEq α]

theorem mem_keys_iff (k : α) (ps : List (α × β)) : k ∈ ps.map (·.1) ↔ (ps.lookup k).isSome = true := by
  rw [List.lookup_isSome_iff, List.mem_map]
  exact ⟨fun ⟨p, hp, e⟩ => ⟨p, hp, beq_iff_eq.mpr e.symm⟩, fun ⟨p, hp, e⟩ => ⟨p, hp, (beq_iff_eq.mp e).symm⟩⟩

variable [DecidableEq α]

theorem lookup_cons_ite (q k : α) (v : β) (ps : List (α × β)) :
    List.lookup q ((k, v) :: ps) = if q = k then some v else List.lookup q ps := by
  rw [List.lookup_cons]
  split <;> simp_all

theorem lookup_filter_ne (key q : α) (ps : List (α × β)) :
    (ps.filter (fun p => p.1 != key)).lookup q = if q = key then none else ps.lookup q := by
  induction ps with
  | nil => exact (ite_self _).symm
  | cons p ps ih =>
    obtain ⟨k, v⟩ := p
    rw [lookup_cons_ite]
    by_cases hk : k = key
    · rw [List.filter_cons_of_neg (by simp [hk]), ih, hk]
      by_cases hq : q = key
      · simp only [if_pos hq]
      · simp only [if_neg hq]
    · rw [List.filter_cons_of_pos (by simpa using hk), lookup_cons_ite, ih]
      by_cases hq : q = k
      · simp only [if_pos hq, if_neg (hq ▸ hk : ¬ q = key)]
      · simp only [if_neg hq]

theorem lookup_eq_some_iff_mem {ps : List (α × β)} (hnd : (ps.map (·.1)).Nodup) (k : α) (v : β) :
    ps.lookup k = some v ↔ (k, v) ∈ ps := by
  induction ps with
  | nil => simp
  | cons p ps ih =>
    obtain ⟨k', v'⟩ := p
    rw [List.map_cons, List.nodup_cons] at hnd
    rw [lookup_cons_ite, List.mem_cons, ← ih hnd.2]
    split
    · subst k
      have : List.lookup k' ps ≠ some v := fun h => hnd.1 (List.mem_map_of_mem (f := (·.1)) ((ih hnd.2).mp h))
      simp [this, eq_comm]
    · rename_i h; simp [h]

end
end Borno.ListAux
