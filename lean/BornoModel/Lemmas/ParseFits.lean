import BornoModel.Lemmas.ParseGraph
import BornoModel.Lemmas.GrammarEqs
/-!
# ParseFits — every tree the expression parser returns fits the ladder

`Grammar.fits k e`: the tree `e` may stand unparenthesised at grammar position `k`.  The parser only
builds trees that fit: left operand at the operator's level or tighter, right operand strictly tighter.
-/
namespace Borno.Parser
open Grammar

/-- a loop keeps the position of the tree parsed so far -/
@[reducible] def FitsAt : (g : Fn) → g.Out → Prop
  | .assignment, e => fits 0 e = true
  | .binLevel k, e => k ≤ nLevels → fits (k + 1) e = true
  | .binLoop k l, e => k < nLevels → fits (k + 1) l = true → fits (k + 1) e = true
  | .unary, e => fits (nLevels + 1) e = true
  | .suffix e0, e => fits (nLevels + 2) e0 = true → fits (nLevels + 2) e = true
  | .exprList, es => fitsAll es = true
  | .objProps, ps => fitsProps ps.1 = true
  | .primary, e => fits (nLevels + 2) e = true

theorem Parses.ladder {g : Fn} {ts : List Token} {a : g.Out} {r : List Token} (h : Parses g ts a r) : FitsAt g a := by
  induction h with
  | pass _ _ ih => exact fits_mono (ih (Nat.zero_le _)) (Nat.zero_le _)
  | assign _ _ _ _ ihv => simp [FitsAt, fits, ihv]
  | arrayAssign _ _ _ ih0 ihv =>
    have f0 := ih0 (Nat.zero_le _)
    simp only [fits, Bool.and_eq_true, decide_eq_true_eq] at f0
    simp [FitsAt, fits, ihv, f0.1.2, f0.2]
  | propAssign _ _ _ ih0 ihv =>
    have f0 := ih0 (Nat.zero_le _)
    simp only [fits, Bool.and_eq_true, decide_eq_true_eq] at f0
    simp [FitsAt, fits, ihv, f0.2]
  | level hk _ _ ihl ihloop => exact fun _ => ihloop hk (fits_mono (ihl hk) (Nat.le_succ _))
  | top hk _ ih =>
    intro hkn
    obtain rfl : _ = nLevels := Nat.le_antisymm hkn (Nat.not_lt.mp hk)
    exact ih
  | binStep ht _ _ ihr ihloop => exact fun hk hl => ihloop hk (fits_mkBin hk ht hl (ihr hk))
  | binStop _ => exact fun _ hl => hl
  | unop ht _ ih => simp [FitsAt, fits, List.contains_iff_mem.mp ht, ih]
  | operand _ _ _ ihp ihs => exact fits_mono (ihs ihp) (Nat.le_succ _)
  | call0 _ _ _ ihs => exact fun h0 => ihs (by simp [fits, fitsAll, h0])
  | call _ _ _ _ _ iha ihs => exact fun h0 => ihs (by simp [fits, h0, iha])
  | index _ _ _ _ ihi ihs => exact fun h0 => ihs (by simp [fits, h0, ihi])
  | prop _ _ _ ihs => exact fun h0 => ihs (by simp [fits, h0])
  | sufStop _ _ _ => exact fun h0 => h0
  | listMore _ _ _ iha ihr => simp [FitsAt, fitsAll, iha, ihr]
  | listOne _ _ iha => simp [FitsAt, fitsAll, iha]
  | propsEnd _ => rfl
  | propsMore _ _ _ _ _ ihv ihp => simp [FitsAt, fitsProps, ihv, ihp]
  | propsLast _ _ _ _ ihv => simp [FitsAt, fitsProps, ihv]
  | litFalse _ | litTrue _ | litNil _ | number _ | string _ | ident _ => rfl
  | group _ _ _ ihe => simp [FitsAt, fits, ihe]
  | array0 _ _ => rfl
  | array _ _ _ _ ihes => simp [FitsAt, fits, ihes]
  | object _ hps _ ihps => simpa [FitsAt, fits, ihps] using Decidable.not_or_of_imp hps.noComma_of_nil

end Borno.Parser
