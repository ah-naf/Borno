import BornoModel.Lemmas.GrammarEqs
import BornoModel.Lemmas.ParseGraph
/-!
# ParseSound — whatever the expression parser returns is the rendering of its tree

Along every derivation `Parses g ts a r` the tokens consumed, `ts = pre ++ r`, are what the grammar
writes for `a` (`Parses.sound`, an induction over derivations: no fuel).  `soundE` says the same of
every run of each function, through `parses_of_run`.
-/
namespace Borno.Parser
open Grammar

def AllWf (ts : List Token) : Prop := ∀ t ∈ ts, TokWf t

theorem AllWf.tail {t : Token} {r : List Token} (h : AllWf (t :: r)) : AllWf r := fun x hx => h x (List.mem_cons_of_mem _ hx)
theorem AllWf.suffix {pre r : List Token} (h : AllWf (pre ++ r)) : AllWf r := fun x hx => h x (List.mem_append_right _ hx)
theorem AllWf.prefix {pre r : List Token} (h : AllWf (pre ++ r)) : AllWf pre := fun x hx => h x (List.mem_append_left _ hx)

theorem rtok_kw (t : Token) (h1 : t.tt ≠ .IDENTIFIER) (h2 : t.tt ≠ .NUMBER) (h3 : t.tt ≠ .STRING) : rtok t = kw t.tt := by
  simp [rtok, kw, h1, h2, h3]

theorem rtok_eq_kw {t : Token} {tt : TT} (h : t.tt = tt)
    (hp : tt ≠ .IDENTIFIER ∧ tt ≠ .NUMBER ∧ tt ≠ .STRING := by decide) : rtok t = kw tt := by
  subst h; exact rtok_kw t hp.1 hp.2.1 hp.2.2

theorem rtok_ident (t : Token) (h : t.tt = .IDENTIFIER) : rtok t = idt t.lexeme := by
  simp [rtok, idt, h]

theorem levelOps_plain {k : Nat} {tt : TT} (h : (levelOps k).contains tt = true) :
    tt ≠ .IDENTIFIER ∧ tt ≠ .NUMBER ∧ tt ≠ .STRING :=
  levelOps_forall (P := fun tt => tt ≠ .IDENTIFIER ∧ tt ≠ .NUMBER ∧ tt ≠ .STRING) (by decide) h

theorem unaryOps_plain {tt : TT} (h : Expect.unaryOps.contains tt = true) :
    tt ≠ .IDENTIFIER ∧ tt ≠ .NUMBER ∧ tt ≠ .STRING := by
  have : ∀ x ∈ Expect.unaryOps, x ≠ TT.IDENTIFIER ∧ x ≠ TT.NUMBER ∧ x ≠ TT.STRING := by decide
  exact this tt (List.contains_iff_mem.mp h)

/-- the tokens consumed from `ts` down to the rest `r` are, as the grammar sees them, `x` — provided the NUMBER and
    STRING tokens among them carry their literal (asked of the consumed tokens only, and used at those two alone) -/
def Consumed (ts r : List Token) (x : List RTok) : Prop := ∃ pre, ts = pre ++ r ∧ (AllWf pre → pre.map rtok = x)

theorem Consumed.nil (r : List Token) : Consumed r r [] := ⟨[], rfl, fun _ => rfl⟩

theorem Consumed.cons {ts r : List Token} {x : List RTok} {t : Token} (h : Consumed ts r x) :
    Consumed (t :: ts) r (rtok t :: x) := by
  obtain ⟨pre, rfl, hx⟩ := h; exact ⟨t :: pre, rfl, fun hw => by rw [List.map_cons, hx hw.tail]⟩

theorem Consumed.kw {ts r : List Token} {x : List RTok} {t : Token} {tt : TT} (ht : t.tt = tt) (h : Consumed ts r x)
    (hp : tt ≠ .IDENTIFIER ∧ tt ≠ .NUMBER ∧ tt ≠ .STRING := by decide) : Consumed (t :: ts) r (Grammar.kw tt :: x) :=
  rtok_eq_kw ht hp ▸ h.cons

theorem Consumed.idt {ts r : List Token} {x : List RTok} {t : Token} (ht : t.tt = .IDENTIFIER) (h : Consumed ts r x) :
    Consumed (t :: ts) r (Grammar.idt t.lexeme :: x) :=
  rtok_ident t ht ▸ h.cons

theorem Consumed.append {ts r1 r : List Token} {x y : List RTok} (h1 : Consumed ts r1 x) (h2 : Consumed r1 r y) :
    Consumed ts r (x ++ y) := by
  obtain ⟨p, rfl, hx⟩ := h1; obtain ⟨q, rfl, hy⟩ := h2
  exact ⟨p ++ q, by simp, fun hw => by rw [List.map_append, hx hw.prefix, hy hw.suffix]⟩

theorem Consumed.eq {ts r : List Token} {x y : List RTok} (h : Consumed ts r x) (e : x = y) : Consumed ts r y := e ▸ h

theorem Consumed.rendering {ts r : List Token} {x : List RTok} (h : Consumed ts r x) (hw : AllWf ts) :
    ∃ pre, ts = pre ++ r ∧ pre.map rtok = x := by
  obtain ⟨pre, rfl, hx⟩ := h; exact ⟨pre, rfl, hx hw.prefix⟩

/-- a literal token renders as its literal if it carries one -/
theorem Consumed.lit {t : Token} {r : List Token} {v : LitVal} (h : TokWf t → rtok t = rLit v) : Consumed (t :: r) r [rLit v] :=
  ⟨[t], rfl, fun hw => by rw [List.map_cons, h (hw t List.mem_cons_self)]; rfl⟩

def SoundAt : (g : Fn) → List Token → g.Out → List Token → Prop
  | .binLoop _ l, ts, e, r => ∃ y, Consumed ts r y ∧ rExpr e = rExpr l ++ y
  | .suffix e0, ts, e, r => ∃ y, Consumed ts r y ∧ rExpr e = rExpr e0 ++ y
  | .exprList, ts, es, r => Consumed ts r (rList es)
  | .objProps, ts, ps, r => Consumed ts r (rProps ps.1 ++ if ps.2 then [kw .COMMA] else [])
  | .assignment, ts, e, r | .binLevel _, ts, e, r | .unary, ts, e, r | .primary, ts, e, r => Consumed ts r (rExpr e)

theorem Parses.sound {g : Fn} {ts : List Token} {a : g.Out} {r : List Token} (h : Parses g ts a r) : SoundAt g ts a r := by
  induction h with
  | pass _ _ ih => exact ih
  | assign _ ht _ ih0 ihv | arrayAssign _ ht _ ih0 ihv | propAssign _ ht _ ih0 ihv =>
    exact (ih0.append (.kw ht ihv)).eq (by simp [rExpr])
  | level _ _ _ ihl ihloop =>
    obtain ⟨_, c, he⟩ := ihloop
    exact (ihl.append c).eq he.symm
  | top _ _ ih => exact ih
  | binStep ht _ _ ihr ihloop =>
    obtain ⟨_, c, he⟩ := ihloop
    exact ⟨_, .kw rfl (ihr.append c) (levelOps_plain ht), by simp [he, rExpr_mkBin]⟩
  | binStop _ => exact ⟨[], .nil _, by simp⟩
  | unop ht _ ih => exact .kw rfl ih (unaryOps_plain ht)
  | operand _ _ _ ihp ihs =>
    obtain ⟨_, c, he⟩ := ihs
    exact (ihp.append c).eq he.symm
  | call0 h1 h2 _ ihs =>
    obtain ⟨_, c, he⟩ := ihs
    exact ⟨_, .kw h1 (.kw h2 c), by simp [he, rExpr, rList]⟩
  | call h1 _ _ h3 _ iha ihs =>
    obtain ⟨_, c, he⟩ := ihs
    exact ⟨_, .kw h1 (iha.append (.kw h3 c)), by simp [he, rExpr]⟩
  | index h1 _ h2 _ ihi ihs =>
    obtain ⟨_, c, he⟩ := ihs
    exact ⟨_, .kw h1 (ihi.append (.kw h2 c)), by simp [he, rExpr]⟩
  | prop h1 h2 _ ihs =>
    obtain ⟨_, c, he⟩ := ihs
    exact ⟨_, .kw h1 (.idt h2 c), by simp [he, rExpr]⟩
  | sufStop _ _ _ => exact ⟨[], .nil _, by simp⟩
  | listMore _ ht hr iha ihr =>
    refine (iha.append (.kw ht ihr)).eq ?_
    cases hr <;> simp [rList]
  | listOne _ _ iha => exact iha.eq (rList_single _).symm
  | propsEnd _ => exact (Consumed.nil _).eq (by simp [rProps])
  | propsMore hn hc _ h2 hp ihv ihp =>
    refine (Consumed.idt hn (.kw hc (ihv.append (.kw h2 ihp)))).eq ?_
    cases hp <;> simp [rProps]
  | propsLast hn hc _ _ ihv => exact (Consumed.idt hn (.kw hc ihv)).eq (by simp [rProps_single])
  | litFalse h | litTrue h | litNil h => exact .kw h (.nil _)
  | number h =>
    exact Consumed.lit fun hw => by obtain ⟨_, hx⟩ := hw.1 h; simp [rLit, rtok, h, hx, litOf]
  | string h =>
    exact Consumed.lit fun hw => by obtain ⟨_, hx⟩ := hw.2 h; simp [rLit, rtok, h, hx, litOf]
  | ident h => exact .idt h (.nil _)
  | group h1 _ h2 ihe => exact .kw h1 (ihe.append (.kw h2 (.nil _)))
  | array0 h1 h2 => exact .kw h1 (.kw h2 (.nil _))
  | array h1 _ _ h3 ihes => exact .kw h1 (ihes.append (.kw h3 (.nil _)))
  | object h1 _ h3 ihps => exact (Consumed.kw h1 (ihps.append (.kw h3 (.nil _)))).eq (by simp [rExpr])

structure SoundE (f : Nat) : Prop where
  asg : ∀ ts e r, AllWf ts → assignment f ts = .ok e r → ∃ pre, ts = pre ++ r ∧ pre.map rtok = rExpr e
  lvl : ∀ k ts e r, AllWf ts → binLevel f k ts = .ok e r → ∃ pre, ts = pre ++ r ∧ pre.map rtok = rExpr e
  loop : ∀ k l ts e r, AllWf ts → binLoop f k l ts = .ok e r → ∃ pre, ts = pre ++ r ∧ rExpr l ++ pre.map rtok = rExpr e
  un : ∀ ts e r, AllWf ts → unary f ts = .ok e r → ∃ pre, ts = pre ++ r ∧ pre.map rtok = rExpr e
  suf : ∀ e0 ts e r, AllWf ts → suffix f e0 ts = .ok e r → ∃ pre, ts = pre ++ r ∧ rExpr e0 ++ pre.map rtok = rExpr e
  lst : ∀ ts es r, AllWf ts → exprList f ts = .ok es r → ∃ pre, ts = pre ++ r ∧ pre.map rtok = rList es ∧ es ≠ []
  obj : ∀ ts ps r, AllWf ts → objProps f ts = .ok ps r →
      ∃ pre, ts = pre ++ r ∧ pre.map rtok = rProps ps.1 ++ (if ps.2 then [kw .COMMA] else []) ∧ (ps.1 = [] → ps.2 = false)
  prim : ∀ ts e r, AllWf ts → primary f ts = .ok e r → ∃ pre, ts = pre ++ r ∧ pre.map rtok = rExpr e

theorem soundE (f : Nat) : SoundE f where
  asg _ _ _ hw h := (parses_of_run f .assignment h).sound.rendering hw
  lvl k _ _ _ hw h := (parses_of_run f (.binLevel k) h).sound.rendering hw
  loop k l _ _ _ hw h := let ⟨_, c, he⟩ := (parses_of_run f (.binLoop k l) h).sound; let ⟨pre, h1, h2⟩ := c.rendering hw; ⟨pre, h1, by rw [he, h2]⟩
  un _ _ _ hw h := (parses_of_run f .unary h).sound.rendering hw
  suf e0 _ _ _ hw h := let ⟨_, c, he⟩ := (parses_of_run f (.suffix e0) h).sound; let ⟨pre, h1, h2⟩ := c.rendering hw; ⟨pre, h1, by rw [he, h2]⟩
  lst _ _ _ hw h :=
    let d := parses_of_run f .exprList h
    let ⟨pre, h1, h2⟩ := d.sound.rendering hw; ⟨pre, h1, h2, d.ne_nil⟩
  obj _ _ _ hw h :=
    let d := parses_of_run f .objProps h
    let ⟨pre, h1, h2⟩ := d.sound.rendering hw; ⟨pre, h1, h2, d.noComma_of_nil⟩
  prim _ _ _ hw h := (parses_of_run f .primary h).sound.rendering hw

end Borno.Parser
