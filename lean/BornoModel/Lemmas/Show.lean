import BornoModel.Value
/-! `showProps` is `showList` of the looked-up values, labelled -/
namespace Borno

theorem showProps_eq_showList (σ : Store) (ps : List (Name × Val)) : ∀ (f : Nat) (ks : List Name),
    showProps σ f ps ks =
      (showList σ f (ks.map fun k => (ps.lookup k).getD .nil)).map (List.zipWith (fun k s => k ++ ':' :: s) ks)
  | 0, _ => rfl
  | _ + 1, [] => rfl
  | f + 1, k :: ks => by
    rw [showProps, List.map_cons, showList, showProps_eq_showList σ ps f ks]
    cases showNested σ f ((ps.lookup k).getD .nil) <;> cases showList σ f _ <;> rfl

end Borno
