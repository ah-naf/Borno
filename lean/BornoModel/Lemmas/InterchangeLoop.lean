import BornoModel.Lemmas.Interchange
/-! # Interchange under loops: a condition that is re-evaluated arbitrarily often

A loop is not built from its parts by recursion on the syntax, so `Ev2` of two loops is not a congruence step.  It is
taken from two one-sided statements, each by induction on the budget at which one loop answers. -/
namespace Borno
variable (P : Platform)

/-- if `x` is an answer, it is the answer of `X'` from some budget on; goes through `bind` without a side condition -/
def Reaches {α : Type} (x : Res α) (X' : Nat → Res α) : Prop := ∃ g, ∀ G, g ≤ G → x.le (X' G)

namespace Reaches
variable {α β : Type}

theorem refl (x : Res α) : Reaches x (fun _ => x) := ⟨0, fun _ _ => Res.le_refl x⟩

theorem succ {x : Res α} {X' : Nat → Res α} (h : Reaches x (fun G => X' (G + 1))) : Reaches x X' :=
  eventually_of_succ h

theorem of_ev2 {X X' : Nat → Res α} (h : Ev2 X X') (hX : ∀ f, (X f).le (X (f + 1))) (f : Nat) : Reaches (X f) X' := by
  obtain ⟨F0, h0⟩ := h
  exact ⟨max f F0, fun G hG => h0 G (Nat.max_le.1 hG).2 ▸ chain_le hX (Nat.max_le.1 hG).1⟩

theorem ite {c : Prop} [Decidable c] {a b : Res α} {A' B' : Nat → Res α} (ha : Reaches a A') (hb : Reaches b B') :
    Reaches (if c then a else b) (fun G => if c then A' G else B' G) := by
  split
  · exact ha
  · exact hb

theorem bind {x : Res α} {X' : Nat → Res α} {k : α → Store → Res β} {K' : Nat → α → Store → Res β} (h : Reaches x X')
    (hk : ∀ a σ, Reaches (k a σ) (fun G => K' G a σ)) : Reaches (x.bind k) (fun G => (X' G).bind (K' G)) := by
  obtain ⟨g1, h1⟩ := h
  cases x with
  | abn a => exact ⟨g1, fun G hG => Res.bind_le (k := K' G) (h1 G hG) (fun _ _ => Res.le_refl _)⟩
  | ok a σ =>
    obtain ⟨g2, h2⟩ := hk a σ
    refine ⟨max g1 g2, fun G hG => ?_⟩
    rw [Nat.max_le] at hG
    rcases h1 G hG.1 with h | h
    · cases h
    · show (k a σ).le ((X' G).bind (K' G))
      rw [← h]; exact h2 G hG.2

theorem seq {x : ER} {X' : Nat → ER} {k : Val → Store → ER} {K' : Nat → Val → Store → ER} (h : Reaches x X')
    (hk : ∀ a σ, Reaches (k a σ) (fun G => K' G a σ)) : Reaches (x.seq k) (fun G => (X' G).seq (K' G)) :=
  h.bind fun p σ1 => ite (refl _) (hk p.1 σ1)

end Reaches

theorem EvEq.reaches {e e' : Expr} (h : EvEq P e e') (f env : Nat) (repl : Bool) (σ : Store) :
    Reaches (evalE P f e env repl σ) (fun G => evalE P G e' env repl σ) :=
  .of_ev2 (h env repl σ) (evalE_le P) f

inductive OptEv : Option Expr → Option Expr → Prop
  | none : OptEv none none
  | some {e e' : Expr} : EvEq P e e' → OptEv (some e) (some e')

theorem OptEv.symm {a b : Option Expr} (h : OptEv P a b) : OptEv P b a := by
  cases h with
  | none => exact .none
  | some h => exact .some (EvEq.symm P h)

theorem OptEv.refl (a : Option Expr) : OptEv P a a := by
  cases a with
  | none => exact .none
  | some e => exact .some (EvEq.refl P e)

/-- whatever the loop with test `c`, increment `inc` and body `b` answers, the loop with agreeing parts answers too -/
theorem forLoop_reaches {c c' : Expr} (h : EvEq P c c') {inc inc' : Option Expr} (hi : OptEv P inc inc') {b b' : Stmt}
    (hb : EvS P b b') (env : Nat) (repl : Bool) (f : Nat) :
    ∀ σ, Reaches (forLoop P f c inc b env repl σ) (fun G => forLoop P G c' inc' b' env repl σ) := by
  induction f with
  | zero => exact fun σ => ⟨0, fun _ _ => forLoop_zero P .. ▸ Res.fuel_le _⟩
  | succ f ih =>
    intro σ
    rw [forLoop]; refine .succ ?_; simp only [forLoop]
    refine (h.reaches P f env repl σ).seq fun cv σ1 => .ite (.refl _) ?_
    refine (Reaches.of_ev2 (hb env repl σ1) (evalS_le P) f).bind fun p σ2 => ?_
    obtain ⟨v, sig⟩ := p
    cases sig
    case brk => exact .refl _
    case ret => exact .refl _
    -- no signal, or `continue`: on to the increment
    all_goals
      cases hi with
      | none => exact ih σ2
      | some he => exact (he.reaches P f env repl σ2).seq fun _ σ3 => ih σ3

theorem for_transfer {c c' : Expr} (h : EvEq P c c') {inc inc' : Option Expr} (hi : OptEv P inc inc') {b b' : Stmt} (hbb : EvS P b b')
    (env : Nat) (repl : Bool) :
    ∀ (f : Nat) (σ : Store) (r : ER), forLoop P f c inc b env repl σ = r → r ≠ .abn .fuel →
      ∃ g, forLoop P g c' inc' b' env repl σ = r := by
  intro f σ r hr hne
  obtain ⟨g, hg⟩ := forLoop_reaches P h hi hbb env repl f σ
  exact ⟨g, hr ▸ ((hg g (Nat.le_refl g)).resolve_left (hr ▸ hne)).symm⟩

theorem while_transfer {c c' : Expr} (h : EvEq P c c') {b b' : Stmt} (hbb : EvS P b b') (env : Nat) (repl : Bool) :
    ∀ (f : Nat) (σ : Store) (r : ER), whileLoop P f c b env repl σ = r → r ≠ .abn .fuel →
      ∃ g, whileLoop P g c' b' env repl σ = r := by
  simp only [whileLoop_eq_forLoop]
  exact for_transfer P h .none hbb env repl

/-- two budget-indexed computations that are monotone and answer the same whenever one of them answers coincide eventually -/
theorem ev2_of_transfer {α : Type} (X X' : Nat → Res α) (hX : ∀ f, (X f).le (X (f + 1))) (hX' : ∀ f, (X' f).le (X' (f + 1)))
    (t : ∀ f, X f ≠ .abn .fuel → ∃ g, X' g = X f) (t' : ∀ f, X' f ≠ .abn .fuel → ∃ g, X g = X' f) : Ev2 X X' := by
  by_cases hall : ∀ F, X F = .abn .fuel
  · refine ⟨0, fun F _ => ?_⟩
    rw [hall F]
    by_cases hF : X' F = .abn .fuel
    · exact hF.symm
    · obtain ⟨g, hg⟩ := t' F hF
      rw [hall g] at hg; exact absurd hg.symm hF
  · obtain ⟨f, hf⟩ := Classical.not_forall.1 hall
    obtain ⟨g, hg⟩ := t f hf
    refine ⟨max f g, fun F hF => ?_⟩
    rw [Nat.max_le] at hF
    rw [stable_of_le hX hF.1 hf, stable_of_le hX' hF.2 (hg ▸ hf), hg]

theorem forLoop_ev2 {c c' : Expr} (h : EvEq P c c') {inc inc' : Option Expr} (hi : OptEv P inc inc') {b b' : Stmt} (hb : EvS P b b')
    (env : Nat) (repl : Bool) (σ : Store) :
    Ev2 (fun F => forLoop P F c inc b env repl σ) (fun F => forLoop P F c' inc' b' env repl σ) :=
  ev2_of_transfer _ _ (fun f => (mono P f).fo c inc b env repl σ) (fun f => (mono P f).fo c' inc' b' env repl σ)
    (fun f hf => for_transfer P h hi hb env repl f σ _ rfl hf)
    (fun f hf => for_transfer P (EvEq.symm P h) (OptEv.symm P hi) (EvS.symm P hb) env repl f σ _ rfl hf)

end Borno
