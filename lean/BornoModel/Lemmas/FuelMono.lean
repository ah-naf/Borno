import BornoModel.Lemmas.EvalEqs
/-! # The evaluator is monotone in its step budget

`r ⊑ r'` : `r` ran out of fuel, or `r = r'`.  For every one of the mutually recursive functions,
`eval f … ⊑ eval (f+1) …`; hence an answer other than "out of fuel" is the answer at every larger budget. -/
namespace Borno
variable (P : Platform)

def Res.le {α : Type} (r r' : Res α) : Prop := r = .abn .fuel ∨ r = r'

namespace Res
theorem le_refl {α : Type} (r : Res α) : r.le r := Or.inr rfl
theorem fuel_le {α : Type} (r : Res α) : (Res.abn .fuel : Res α).le r := Or.inl rfl
theorem le_trans {α : Type} {a b c : Res α} (h1 : a.le b) (h2 : b.le c) : a.le c := by
  rcases h1 with h | h
  · exact Or.inl h
  · subst h; exact h2

theorem bind_le {α β : Type} {r r' : Res α} {k k' : α → Store → Res β} (h : r.le r')
    (hk : ∀ a σ, (k a σ).le (k' a σ)) : (r.bind k).le (r'.bind k') := by
  rcases h with h | h
  · subst h; exact Or.inl rfl
  · subst h
    cases r with
    | ok a σ => exact hk a σ
    | abn x => exact Or.inr rfl
end Res

theorem ite_le {α : Type} {c : Prop} [Decidable c] {a a' b b' : Res α} (ha : c → a.le a') (hb : ¬c → b.le b') :
    (if c then a else b).le (if c then a' else b') := by
  by_cases h : c
  · simp only [h, if_true]; exact ha h
  · simp only [h, if_false]; exact hb h

theorem seq_le {r r' : ER} {k k' : Val → Store → ER} (h : r.le r')
    (hk : ∀ a σ, (k a σ).le (k' a σ)) : (r.seq k).le (r'.seq k') :=
  Res.bind_le h fun _ _ => ite_le (fun _ => Res.le_refl _) (fun _ => hk _ _)

theorem guardErr_le {σ : Store} {k k' : ER} (h : k.le k') : (guardErr σ k).le (guardErr σ k') :=
  ite_le (fun _ => Res.le_refl _) (fun _ => h)

theorem chain_le {α : Type} {X : Nat → Res α} (h : ∀ f, (X f).le (X (f + 1))) {f F : Nat} (hf : f ≤ F) : (X f).le (X F) := by
  induction hf with
  | refl => exact Res.le_refl _
  | step _ ih => exact Res.le_trans ih (h _)

theorem stable_of_le {α : Type} {X : Nat → Res α} (h : ∀ f, (X f).le (X (f + 1))) {f F : Nat} (hf : f ≤ F)
    (hne : X f ≠ .abn .fuel) : X F = X f :=
  ((chain_le h hf).resolve_left hne).symm

/-- the field names are those of `AllSat`; no fields for `whileLoop`, `evalDecls`, `evalProps`: they are instances of `forLoop`,
    `evalBlock`, `evalList` (`EvalEqs`), see `Mono.w`, `.d`, `.p` -/
structure Mono (f : Nat) : Prop where
  e : ∀ e env repl σ, (evalE P f e env repl σ).le (evalE P (f + 1) e env repl σ)
  l : ∀ es env repl σ, (evalList P f es env repl σ).le (evalList P (f + 1) es env repl σ)
  c : ∀ id args σ, (callFn P f id args σ).le (callFn P (f + 1) id args σ)
  b : ∀ ss env σ, (runBody P f ss env σ).le (runBody P (f + 1) ss env σ)
  bl : ∀ ss env repl σ, (evalBlock P f ss env repl σ).le (evalBlock P (f + 1) ss env repl σ)
  fo : ∀ c inc b env repl σ, (forLoop P f c inc b env repl σ).le (forLoop P (f + 1) c inc b env repl σ)
  s : ∀ s env repl σ, (evalS P f s env repl σ).le (evalS P (f + 1) s env repl σ)

theorem Mono.p {P : Platform} {f : Nat} (h : Mono P f) (ps : List (Name × Expr)) (env : Nat) (repl : Bool) (σ : Store) :
    (evalProps P f ps env repl σ).le (evalProps P (f + 1) ps env repl σ) := by
  simp only [evalProps_eq_evalList]
  exact Res.bind_le (h.l _ _ _ _) (fun _ _ => Res.le_refl _)

theorem Mono.d {P : Platform} {f : Nat} (h : Mono P f) (ds : List VarDecl) (env : Nat) (repl : Bool) (σ : Store) :
    (evalDecls P f ds env repl σ).le (evalDecls P (f + 1) ds env repl σ) := by
  simp only [evalDecls_eq_evalBlock]; exact h.bl _ _ _ _

theorem Mono.w {P : Platform} {f : Nat} (h : Mono P f) (c : Expr) (b : Stmt) (env : Nat) (repl : Bool) (σ : Store) :
    (whileLoop P f c b env repl σ).le (whileLoop P (f + 1) c b env repl σ) := by
  simp only [whileLoop_eq_forLoop]; exact h.fo _ _ _ _ _ _

theorem mono (f : Nat) : Mono P f := by
  induction f with
  | zero => exact
    { e := fun _ _ _ _ => evalE_zero P .. ▸ Res.fuel_le _
      l := fun _ _ _ _ => evalList_zero P .. ▸ Res.fuel_le _
      c := fun _ _ _ => callFn_zero P .. ▸ Res.fuel_le _
      b := fun _ _ _ => runBody_zero P .. ▸ Res.fuel_le _
      bl := fun _ _ _ _ => evalBlock_zero P .. ▸ Res.fuel_le _
      fo := fun _ _ _ _ _ _ => forLoop_zero P .. ▸ Res.fuel_le _
      s := fun _ _ _ _ => evalS_zero P .. ▸ Res.fuel_le _ }
  | succ f ih => exact
    { e := fun e env repl σ => by
        rw [evalE.eq_def, evalE.eq_def]
        refine guardErr_le ?_
        cases e
        case literal v l => exact Res.le_refl _
        case ident n l => exact Res.le_refl _
        case grouping e' l => exact ih.e _ _ _ _
        case unary op l e' => exact seq_le (ih.e _ _ _ _) (fun _ _ => Res.le_refl _)
        case binary l op line r =>
          exact seq_le (ih.e _ _ _ _) (fun _ _ => guardErr_le (seq_le (ih.e _ _ _ _) (fun _ _ => Res.le_refl _)))
        case logical l op r =>
          exact seq_le (ih.e _ _ _ _) (fun _ _ => ite_le (fun _ => ite_le (fun _ => Res.le_refl _) (fun _ => ih.e _ _ _ _))
            (fun _ => ite_le (fun _ => Res.le_refl _) (fun _ => ih.e _ _ _ _)))
        case call c pl args =>
          refine seq_le (ih.e _ _ _ _) (fun cv σ1 => ?_)
          split
          · exact Res.le_refl _
          · refine ite_le (fun _ => Res.le_refl _) (fun _ => Res.bind_le (ih.l _ _ _ _) (fun p σ2 => ite_le (fun _ => Res.le_refl _) (fun _ => guardErr_le ?_)))
            cases cv with
            | fn id => exact ih.c _ _ _
            | _ => exact Res.le_refl _
        case arrayLit es => exact Res.bind_le (ih.l _ _ _ _) (fun _ _ => Res.le_refl _)
        case objectLit ps tc => exact Res.bind_le (ih.p _ _ _ _) (fun _ _ => Res.le_refl _)
        case arrayAccess a i l => exact seq_le (ih.e _ _ _ _) (fun _ _ => seq_le (ih.e _ _ _ _) (fun _ _ => Res.le_refl _))
        case propAccess o p l => exact seq_le (ih.e _ _ _ _) (fun _ _ => Res.le_refl _)
        case assign n nl v l => exact seq_le (ih.e _ _ _ _) (fun _ _ => Res.le_refl _)
        case arrayAssign a i v l =>
          exact seq_le (ih.e _ _ _ _) (fun _ _ => seq_le (ih.e _ _ _ _) (fun _ _ => seq_le (ih.e _ _ _ _) (fun _ _ => Res.le_refl _)))
        case propAssign o p v l =>
          refine seq_le (ih.e _ _ _ _) (fun ov σ1 => ?_)
          cases ov with
          | obj r => exact seq_le (ih.e _ _ _ _) (fun _ _ => Res.le_refl _)
          | _ => exact Res.le_refl _
      l := fun es env repl σ => by
        cases es with
        | nil => rw [evalList, evalList]; exact Res.le_refl _
        | cons e es =>
          rw [evalList, evalList]
          exact Res.bind_le (ih.e _ _ _ _) (fun _ _ => ite_le (fun _ => Res.le_refl _) (fun _ => Res.bind_le (ih.l _ _ _ _) (fun _ _ => Res.le_refl _)))
      c := fun id args σ => by
        rw [callFn, callFn]
        split
        · exact Res.le_refl _
        · exact ite_le (fun _ => Res.le_refl _) (fun _ => Res.bind_le (ih.b _ _ _) (fun _ _ => Res.le_refl _))
      b := fun ss env σ => by
        cases ss with
        | nil => rw [runBody, runBody]; exact Res.le_refl _
        | cons s ss =>
          rw [runBody, runBody]
          refine Res.bind_le (ih.s _ _ _ _) (fun p σ1 => ?_)
          split
          · exact Res.le_refl _
          · exact ih.b _ _ _
          · exact Res.le_refl _
      bl := fun ss env repl σ => by
        cases ss with
        | nil => rw [evalBlock, evalBlock]; exact Res.le_refl _
        | cons s ss =>
          rw [evalBlock, evalBlock]
          exact seq_le (ih.s _ _ _ _) (fun _ _ => guardErr_le (ih.bl _ _ _ _))
      fo := fun c inc b env repl σ => by
        rw [forLoop, forLoop]
        refine seq_le (ih.e _ _ _ _) (fun cv σ1 => ite_le (fun _ => Res.le_refl _) (fun _ => Res.bind_le (ih.s _ _ _ _) (fun p σ2 => ?_)))
        split
        · exact Res.le_refl _
        · exact Res.le_refl _
        · cases inc with
          | none => exact ih.fo _ _ _ _ _ _
          | some ie => exact seq_le (ih.e _ _ _ _) (fun _ _ => ih.fo _ _ _ _ _ _)
      s := fun s env repl σ => by
        rw [evalS.eq_def, evalS.eq_def]
        refine guardErr_le ?_
        cases s
        case expr e => exact seq_le (ih.e _ _ _ _) (fun _ _ => Res.le_refl _)
        case print e => exact Res.bind_le (ih.e _ _ _ _) (fun _ _ => Res.le_refl _)
        case var d =>
          refine seq_le ?_ (fun _ _ => Res.le_refl _)
          cases d.init with
          | none => exact Res.le_refl _
          | some e => exact seq_le (ih.e _ _ _ _) (fun _ _ => Res.le_refl _)
        case varList ds => exact ih.d _ _ _ _
        case block ss => exact ih.bl _ _ _ _
        case ifS c t e =>
          refine seq_le (ih.e _ _ _ _) (fun cv σ1 => ite_le (fun _ => Res.bind_le (ih.s _ _ _ _) (fun _ _ => Res.le_refl _)) (fun _ => ?_))
          cases e with
          | none => exact Res.le_refl _
          | some el => exact Res.bind_le (ih.s _ _ _ _) (fun _ _ => Res.le_refl _)
        case whileS c b => exact ih.w _ _ _ _ _
        case forS init c inc b =>
          cases init with
          | none => exact ih.fo _ _ _ _ _ _
          | some i => exact seq_le (ih.s _ _ _ _) (fun _ _ => ih.fo _ _ _ _ _ _)
        case breakS l => exact Res.le_refl _
        case continueS l => exact Res.le_refl _
        case returnS l v =>
          cases v with
          | none => exact Res.le_refl _
          | some e => exact seq_le (ih.e _ _ _ _) (fun _ _ => Res.le_refl _)
        case funS name ps body => exact Res.le_refl _ }

theorem evalE_le {e : Expr} {env : Nat} {repl : Bool} {σ : Store} (f : Nat) :
    (evalE P f e env repl σ).le (evalE P (f + 1) e env repl σ) := (mono P f).e e env repl σ

theorem evalList_le {es : List Expr} {env : Nat} {repl : Bool} {σ : Store} (f : Nat) :
    (evalList P f es env repl σ).le (evalList P (f + 1) es env repl σ) := (mono P f).l es env repl σ

theorem evalS_le {s : Stmt} {env : Nat} {repl : Bool} {σ : Store} (f : Nat) :
    (evalS P f s env repl σ).le (evalS P (f + 1) s env repl σ) := (mono P f).s s env repl σ

theorem interpretLoop_le (f : Nat) (ss : List Stmt) (env : Nat) (repl : Bool) (σ : Store) :
    (interpretLoop P f ss env repl σ).le (interpretLoop P (f + 1) ss env repl σ) := by
  induction f generalizing ss σ with
  | zero => rw [interpretLoop_zero]; exact Res.fuel_le _
  | succ f ih =>
    cases ss with
    | nil => rw [interpretLoop, interpretLoop]; exact Res.le_refl _
    | cons s ss =>
      rw [interpretLoop, interpretLoop]
      refine Res.bind_le (evalS_le P f) (fun p σ1 => ?_)
      cases p.2 with
      | none => exact ite_le (fun _ => Res.le_refl _) (fun _ => ih _ _)
      | _ => exact Res.le_refl _

/-- **the model's answer to a program does not depend on the step budget**: if interpreting a program with
    budget `f` ends in anything but "out of fuel", every larger budget gives exactly the same final store -/
theorem interpret_stable (f f' : Nat) (hf : f ≤ f') (prog : List Stmt) (repl : Bool) (input : List Char)
    (h : interpret P f prog repl input ≠ .abn .fuel) : interpret P f' prog repl input = interpret P f prog repl input :=
  stable_of_le (fun f => interpretLoop_le P f prog 1 repl (initStore input)) hf h

end Borno
