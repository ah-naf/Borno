import BornoModel.Lemmas.InterchangeStmt
import BornoModel.Lemmas.InterchangeObj
/-! # Redundant parentheses anywhere outside function bodies -/
namespace Borno
variable (P : Platform)

mutual
/-- `ParenE e e'`: `e'` is `e` with parentheses inserted around any sub-expressions -/
inductive ParenE : Expr → Expr → Prop
  | refl (e : Expr) : ParenE e e
  | wrap {e e' : Expr} (l : Nat) : ParenE e e' → ParenE e (.grouping e' l)
  | grouping {e e' : Expr} (l : Nat) : ParenE e e' → ParenE (.grouping e l) (.grouping e' l)
  | unary {e e' : Expr} (op : TT) (l : Nat) : ParenE e e' → ParenE (.unary op l e) (.unary op l e')
  | binary {a a' r r' : Expr} (op : TT) (l : Nat) : ParenE a a' → ParenE r r' → ParenE (.binary a op l r) (.binary a' op l r')
  | logical {a a' r r' : Expr} (op : TT) : ParenE a a' → ParenE r r' → ParenE (.logical a op r) (.logical a' op r')
  | call {c c' : Expr} {args args' : List Expr} (pl : Nat) : ParenE c c' → ParenL args args' → ParenE (.call c pl args) (.call c' pl args')
  | arrayLit {es es' : List Expr} : ParenL es es' → ParenE (.arrayLit es) (.arrayLit es')
  | objectLit {ps ps' : List (Name × Expr)} (tc : Bool) : ParenP ps ps' → ParenE (.objectLit ps tc) (.objectLit ps' tc)
  | arrayAccess {a a' i i' : Expr} (l : Nat) : ParenE a a' → ParenE i i' → ParenE (.arrayAccess a i l) (.arrayAccess a' i' l)
  | propAccess {o o' : Expr} (p : Name) (l : Nat) : ParenE o o' → ParenE (.propAccess o p l) (.propAccess o' p l)
  | assign {v v' : Expr} (n : Name) (nl l : Nat) : ParenE v v' → ParenE (.assign n nl v l) (.assign n nl v' l)
  | arrayAssign {a a' i i' v v' : Expr} (l : Nat) : ParenE a a' → ParenE i i' → ParenE v v' → ParenE (.arrayAssign a i v l) (.arrayAssign a' i' v' l)
  | propAssign {o o' v v' : Expr} (p : Name) (l : Nat) : ParenE o o' → ParenE v v' → ParenE (.propAssign o p v l) (.propAssign o' p v' l)
inductive ParenL : List Expr → List Expr → Prop
  | nil : ParenL [] []
  | cons {e e' : Expr} {es es' : List Expr} : ParenE e e' → ParenL es es' → ParenL (e :: es) (e' :: es')
inductive ParenP : List (Name × Expr) → List (Name × Expr) → Prop
  | nil : ParenP [] []
  | cons {k : Name} {e e' : Expr} {ps ps' : List (Name × Expr)} : ParenE e e' → ParenP ps ps' → ParenP ((k, e) :: ps) ((k, e') :: ps')
end

mutual
theorem parenE_ev : ∀ {e e' : Expr}, ParenE e e' → EvEq P e e'
  | _, _, .refl e => EvEq.refl P e
  | _, _, .wrap l h => EvEq.trans P (parenE_ev h) (EvEq.symm P (evEq_grouping P _ l))
  | _, _, .grouping l h => cong_grouping P l (parenE_ev h)
  | _, _, .unary op l h => cong_unary P op l (parenE_ev h)
  | _, _, .binary op l ha hr => cong_binary P op l (parenE_ev ha) (parenE_ev hr)
  | _, _, .logical op ha hr => cong_logical P op (parenE_ev ha) (parenE_ev hr)
  | _, _, .call pl hc hargs => cong_call P pl (parenE_ev hc) (parenL_ev hargs).2 (parenL_ev hargs).1
  | _, _, .arrayLit hs => cong_arrayLit P (parenL_ev hs).1
  | _, _, .objectLit tc hs => cong_objectLit P tc (parenP_ev hs)
  | _, _, .arrayAccess l ha hi => cong_arrayAccess P l (parenE_ev ha) (parenE_ev hi)
  | _, _, .propAccess p l ho => cong_propAccess P p l (parenE_ev ho)
  | _, _, .assign n nl l hv => cong_assign P n nl l (parenE_ev hv)
  | _, _, .arrayAssign l ha hi hv => cong_arrayAssign P l (parenE_ev ha) (parenE_ev hi) (parenE_ev hv)
  | _, _, .propAssign p l ho hv => cong_propAssign P p l (parenE_ev ho) (parenE_ev hv)
theorem parenL_ev : ∀ {es es' : List Expr}, ParenL es es' → EvL P es es' ∧ es.length = es'.length
  | _, _, .nil => ⟨EvL.refl P [], rfl⟩
  | _, _, .cons he hs => ⟨EvL.cons P (parenE_ev he) (parenL_ev hs).1, congrArg (· + 1) (parenL_ev hs).2⟩
theorem parenP_ev : ∀ {ps ps' : List (Name × Expr)}, ParenP ps ps' → RelP (EvEq P) ps ps'
  | _, _, .nil => .nil
  | _, _, .cons he hs => .cons (parenE_ev he) (parenP_ev hs)
end

inductive ParenOE : Option Expr → Option Expr → Prop
  | none : ParenOE none none
  | some {e e' : Expr} : ParenE e e' → ParenOE (some e) (some e')

inductive ParenD : List VarDecl → List VarDecl → Prop
  | nil : ParenD [] []
  | consNone {n : Name} {l : Nat} {ds ds' : List VarDecl} : ParenD ds ds' → ParenD (⟨n, l, none⟩ :: ds) (⟨n, l, none⟩ :: ds')
  | consSome {n : Name} {l : Nat} {e e' : Expr} {ds ds' : List VarDecl} : ParenE e e' → ParenD ds ds' →
      ParenD (⟨n, l, some e⟩ :: ds) (⟨n, l, some e'⟩ :: ds')

mutual
/-- `ParenS s s'`: `s'` is `s` with parentheses inserted around sub-expressions of its own code — not inside the
    bodies of the functions it declares (a declaration is related only to itself) -/
inductive ParenS : Stmt → Stmt → Prop
  | refl (s : Stmt) : ParenS s s
  | expr {e e' : Expr} : ParenE e e' → ParenS (.expr e) (.expr e')
  | print {e e' : Expr} : ParenE e e' → ParenS (.print e) (.print e')
  | var {e e' : Expr} (n : Name) (l : Nat) : ParenE e e' → ParenS (.var ⟨n, l, some e⟩) (.var ⟨n, l, some e'⟩)
  | varList {ds ds' : List VarDecl} : ParenD ds ds' → ParenS (.varList ds) (.varList ds')
  | block {ss ss' : List Stmt} : ParenSs ss ss' → ParenS (.block ss) (.block ss')
  | ifS {c c' : Expr} {t t' : Stmt} {e e' : Option Stmt} : ParenE c c' → ParenS t t' → ParenOS e e' → ParenS (.ifS c t e) (.ifS c' t' e')
  | whileS {c c' : Expr} {b b' : Stmt} : ParenE c c' → ParenS b b' → ParenS (.whileS c b) (.whileS c' b')
  | forS {i i' : Option Stmt} {c c' inc inc' : Option Expr} {b b' : Stmt} : ParenOS i i' → ParenOE c c' → ParenOE inc inc' → ParenS b b' →
      ParenS (.forS i c inc b) (.forS i' c' inc' b')
  | returnS {e e' : Expr} (l : Nat) : ParenE e e' → ParenS (.returnS l (some e)) (.returnS l (some e'))
inductive ParenSs : List Stmt → List Stmt → Prop
  | nil : ParenSs [] []
  | cons {s s' : Stmt} {ss ss' : List Stmt} : ParenS s s' → ParenSs ss ss' → ParenSs (s :: ss) (s' :: ss')
inductive ParenOS : Option Stmt → Option Stmt → Prop
  | none : ParenOS none none
  | some {s s' : Stmt} : ParenS s s' → ParenOS (some s) (some s')
end

theorem parenOE_ev {a b : Option Expr} (h : ParenOE a b) : OptEv P a b := by
  cases h with
  | none => exact .none
  | some h => exact .some (parenE_ev P h)

theorem parenD_ev {ds ds' : List VarDecl} (h : ParenD ds ds') : ListS P (ds.map .var) (ds'.map .var) := by
  induction h with
  | nil => exact .nil
  | consNone _ ih => exact .cons (evS_varNone P _ _) ih
  | consSome he _ ih => exact .cons (evS_var P _ _ (parenE_ev P he)) ih

mutual
theorem parenS_ev : ∀ {s s' : Stmt}, ParenS s s' → EvS P s s'
  | _, _, .refl s => EvS.refl P s
  | _, _, .expr h => evS_expr P (parenE_ev P h)
  | _, _, .print h => evS_print P (parenE_ev P h)
  | _, _, .var n l h => evS_var P n l (parenE_ev P h)
  | _, _, .varList h => evS_varList P (parenD_ev P h)
  | _, _, .block h => evS_block P (parenSs_ev h)
  | _, _, .ifS hc ht he => evS_if P (parenE_ev P hc) (parenS_ev ht) (parenOS_ev he)
  | _, _, .whileS hc hb => evS_while P (parenE_ev P hc) (parenS_ev hb)
  | _, _, .forS hi hc hinc hb => evS_for P (parenOS_ev hi) (parenOE_ev P hc) (parenOE_ev P hinc) (parenS_ev hb)
  | _, _, .returnS l h => evS_return P l (parenE_ev P h)
theorem parenSs_ev : ∀ {ss ss' : List Stmt}, ParenSs ss ss' → ListS P ss ss'
  | _, _, .nil => .nil
  | _, _, .cons h hs => .cons (parenS_ev h) (parenSs_ev hs)
theorem parenOS_ev : ∀ {a b : Option Stmt}, ParenOS a b → OptS P a b
  | _, _, .none => .none
  | _, _, .some h => .some (parenS_ev h)
end

end Borno
