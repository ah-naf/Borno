import BornoModel.Lemmas.ParseSound
import BornoModel.Lemmas.ParseFits
import BornoModel.Lemmas.ParseElse
/-!
# ParseWf — every program `Parse` returns is well-formed

A returned tree satisfies `Grammar.wfSs`, with or without diagnostics.  With `program_sound` and
`program_complete`: a token list is accepted iff it is the rendering of a well-formed program, and
that program is the tree returned.
-/
namespace Borno.Parser
open Grammar

/-- a tree whose rendering begins with `{` was parsed from a `{` token, where `statement` opens a block -/
@[reducible] def HeadAt : (g : Fn) → List Token → g.Out → Prop
  | .binLoop _ l, _, e => headTT e = headTT l
  | .suffix e0, _, e => headTT e = headTT e0
  | .exprList, _, _ | .objProps, _, _ => True
  | .assignment, ts, e | .binLevel _, ts, e | .unary, ts, e | .primary, ts, e =>
    headTT e = .LEFT_BRACE → ∃ t r, ts = t :: r ∧ t.tt = .LEFT_BRACE

theorem Parses.head {g : Fn} {ts : List Token} {a : g.Out} {r : List Token} (h : Parses g ts a r) : HeadAt g ts a := by
  induction h with
  | pass _ _ ih | top _ _ ih => exact ih
  | assign _ _ _ _ _ | litFalse _ | litTrue _ | litNil _ | ident _ | group _ _ _ _ | array0 _ _ | array _ _ _ _ _ =>
    exact fun hb => nomatch hb
  | arrayAssign _ _ _ ih0 _ | propAssign _ _ _ ih0 _ => exact ih0
  | level _ _ _ ihl ihloop | operand _ _ _ ihl ihloop => exact fun hb => ihl (ihloop ▸ hb)
  | binStep _ _ _ _ ihloop => exact ihloop.trans (headTT_mkBin ..)
  | binStop _ | sufStop _ _ _ => rfl
  | unop _ _ _ => exact fun hb => ⟨_, _, rfl, hb⟩
  | call0 _ _ _ ihs | call _ _ _ _ _ _ ihs | index _ _ _ _ _ ihs | prop _ _ _ ihs => exact ihs
  | listMore _ _ _ _ _ | listOne _ _ _ | propsEnd _ | propsMore _ _ _ _ _ _ _ | propsLast _ _ _ _ _ => trivial
  | number _ | string _ =>
    intro hb
    rename_i t _ _
    cases ht : t.lit <;> simp [headTT, ht, litOf, rLit, kw] at hb
  | object h1 _ _ _ => exact fun _ => ⟨_, _, rfl, h1⟩

theorem VarInit.wf {ts r : List Token} {init : Option Expr} (h : VarInit ts init r) : wfOE init = true := by
  cases h with
  | init _ hv => exact hv.ladder
  | noInit _ => rfl

theorem VarDecls.wf {il : Nat} {ts r : List Token} {ds : List VarDecl} (h : VarDecls il ts ds r) : ds.all wfDecl = true := by
  induction h with
  | more _ hres hi _ _ _ ih => simp [wfDecl, hres, hi.wf, ih]
  | last _ hres hi _ _ => simp [wfDecl, hres, hi.wf]

theorem VarDecls.two_le_length {il : Nat} {ts r : List Token} {ds : List VarDecl} (h : VarDecls il ts ds r)
    (hnot : ∀ d, ds = [d] → False) : 2 ≤ ds.length := by
  cases h with
  | more _ _ _ _ _ hrest => cases hrest <;> simp
  | last _ _ _ _ _ => exact absurd rfl (hnot _)

theorem VarDeclaration.wf {ts r : List Token} {s : Stmt} (h : VarDeclaration ts s r) :
    wfS s = true ∧ wfInit (some s) = true := by
  cases h with
  | one hd _ =>
    have hw := hd.wf
    simp only [List.all_cons, List.all_nil, Bool.and_true] at hw
    exact ⟨by simp [wfS, hw], by simp [wfInit, hw]⟩
  | many hd _ hnot =>
    have hlen := hd.two_le_length hnot
    exact ⟨by simp [wfS, hlen, hd.wf], by simp [wfInit, hlen, hd.wf]⟩

theorem Params.length_le {n : Nat} {ts r : List Token} {ns : List Name} (h : Params n ts ns r) : n + ns.length ≤ Expect.maxParams := by
  induction h with
  | more _ _ _ _ ih => simp only [List.length_cons]; omega
  | last hn _ _ => simp only [List.length_cons, List.length_nil]; omega

theorem OptExpr.wf {stop : TT} {ts r : List Token} {o : Option Expr} (h : OptExpr stop ts o r) : wfOE o = true := by
  cases h with
  | absent _ => rfl
  | present _ he => exact he.ladder

theorem ExprThenSemi.parses {mk : Expr → Stmt} {ts r : List Token} {s : Stmt} {ds : List Diag} (h : ExprThenSemi mk ts s r ds) :
    ∃ e t r0, s = mk e ∧ Parses .assignment ts e (t :: r0) := by
  cases h with
  | semi ha _ | noSemi ha _ => exact ⟨_, _, _, rfl, ha⟩

theorem ForInit.wf {ts r : List Token} {init : Option Stmt} {ds : List Diag} (h : ForInit ts init r ds) : wfInit init = true := by
  cases h with
  | none _ => rfl
  | var _ hd => exact hd.wf.2
  | expr _ _ he =>
    obtain ⟨_, _, _, rfl, ha⟩ := he.parses
    exact ha.ladder

@[reducible] def WfAt : (g : FnS) → g.Out → Prop
  | .block, ss | .program, ss => wfSs ss = true
  | .statement, s => wfS s = true ∧ isPlain s = true
  | .declaration, s | .function, s => wfS s = true

theorem ParsesS.wf {g : FnS} {ts : List Token} {a : g.Out} {r : List Token} {ds : List Diag} (h : ParsesS g ts a r ds) :
    WfAt g a := by
  induction h with
  | declFun _ _ ih => exact ih
  | declVar _ hd => exact hd.wf.1
  | declStmt _ _ _ ih => exact ih.1
  | fun0 _ hres _ _ _ _ ih => simp [WfAt, wfS, hres, ih]
  | funN _ hres _ _ hps _ _ _ ih => simpa [WfAt, wfS, hres, ih] using hps.length_le
  | blockEnd _ | blockEof _ | progEnd _ => rfl
  | blockItem _ _ _ _ ihs ihss | progItem _ _ _ ihs ihss => simp [WfAt, wfSs, ihs, ihss]
  | ifThen _ _ hc _ _ _ ihth => exact ⟨by simp [wfS, wfElse, hc.ladder, ihth.1, ihth.2], rfl⟩
  | ifElse _ _ hc _ hth he _ ihth ihel =>
    exact ⟨by simp [wfS, wfElse, hc.ladder, ihth.1, ihth.2, ihel.1, ihel.2, closed_of_else hth.else_ok.2 he], rfl⟩
  | whileS _ _ hc _ _ ihb => exact ⟨by simp [wfS, hc.ladder, ihb.1, ihb.2], rfl⟩
  | forS _ _ hinit hc _ hi _ _ ihb => exact ⟨by simp [wfS, hinit.wf, hc.wf, hi.wf, ihb.1, ihb.2], rfl⟩
  | print _ he =>
    obtain ⟨_, _, _, rfl, ha⟩ := he.parses
    exact ⟨by simp [wfS, ha.ladder], rfl⟩
  | return0 _ _ | breakS _ _ | continueS _ _ => exact ⟨rfl, rfl⟩
  | returnV _ _ hv _ => exact ⟨by simp [wfS, wfOE, hv.ladder], rfl⟩
  | blockS _ _ ih => exact ⟨by simpa [wfS] using ih, rfl⟩
  | exprS hnot he =>
    obtain ⟨_, _, _, rfl, ha⟩ := he.parses
    have hb : headTT _ ≠ .LEFT_BRACE := fun hb => by
      obtain ⟨_, _, heq, ht⟩ := ha.head hb
      cases heq
      exact hnot (by simp [ht])
    exact ⟨by simp [wfS, ha.ladder, hb], rfl⟩

/-- with or without diagnostics, on any tokens -/
theorem parsed_program_wf {f : Nat} {ts : List Token} {p : List Stmt} {r : List Token} {ds : List Diag}
    (h : program f ts = .ok p r ds) : wfSs p = true :=
  (parsesS_of_run f .program h).wf

theorem program_wf : ∀ (f : Nat) (ts : List Token) (p : List Stmt) (r : List Token), AllWf ts →
    program f ts = .ok p r [] → wfSs p = true :=
  fun _ _ _ _ _ h => parsed_program_wf h

end Borno.Parser
