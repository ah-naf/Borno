import BornoModel.Lemmas.ParseSound
import BornoModel.Lemmas.ParseGraphStmt
/-!
# ParseSoundStmt — an accepted statement / program is the rendering of its tree

Of every derivation of `ParsesS` that reports no diagnostic.
-/
namespace Borno.Parser
open Grammar

theorem VarInit.sound {ts r : List Token} {init : Option Expr} (h : VarInit ts init r) : Consumed ts r (rInit init) := by
  cases h with
  | init he hv => exact .kw he hv.sound
  | noInit _ => exact .nil _

theorem VarDecls.sound {il : Nat} {ts r : List Token} {ds : List VarDecl} (h : VarDecls il ts ds r) :
    Consumed ts r (rDecls ds) := by
  induction h with
  | more ht _ hi _ hc hrest ih =>
    refine (Consumed.idt ht (hi.sound.append (.kw hc ih))).eq ?_
    cases hrest <;> simp [rDecls, rDecl]
  | last ht _ hi _ _ => exact (Consumed.idt ht hi.sound).eq (by simp [rDecls, rDecl])

/-- the tokens after `ধরি` -/
theorem VarDeclaration.sound {ts r : List Token} {s : Stmt} (h : VarDeclaration ts s r) :
    ∃ x, Consumed ts r x ∧ rStmt s = kw .VAR :: x := by
  cases h with
  | one hd hsc => exact ⟨_, hd.sound.append (.kw hsc (.nil _)), by simp [rStmt, rDecls]⟩
  | many hd hsc _ => exact ⟨_, hd.sound.append (.kw hsc (.nil _)), by simp [rStmt]⟩

/-- a parameter list consumes identifiers and commas only, so nothing is asked of its tokens -/
theorem Params.rendering {n : Nat} {ts r : List Token} {ns : List Name} (h : Params n ts ns r) :
    ∃ pre, ts = pre ++ r ∧ pre.map rtok = rNames ns := by
  induction h with
  | more _ ht hc hrest ih =>
    obtain ⟨pre, h1, hx⟩ := ih
    refine ⟨_ :: _ :: pre, by rw [h1]; rfl, ?_⟩
    cases hrest <;> simp [rNames, rtok_ident _ ht, rtok_eq_kw hc, hx]
  | last _ ht _ => exact ⟨[_], rfl, by simp [rNames, rtok_ident _ ht]⟩

theorem Params.sound {n : Nat} {ts r : List Token} {ns : List Name} (h : Params n ts ns r) : Consumed ts r (rNames ns) :=
  let ⟨pre, h1, h2⟩ := h.rendering; ⟨pre, h1, fun _ => h2⟩

theorem OptExpr.sound {stop : TT} {ts r : List Token} {o : Option Expr} (h : OptExpr stop ts o r) : Consumed ts r (rOptE o) := by
  cases h with
  | absent _ => exact .nil _
  | present _ he => exact he.sound

theorem ExprThenSemi.sound {mk : Expr → Stmt} {ts r : List Token} {s : Stmt} (h : ExprThenSemi mk ts s r []) :
    ∃ e, s = mk e ∧ Consumed ts r (rExpr e ++ [kw .SEMICOLON]) := by
  cases h with
  | semi ha ht => exact ⟨_, rfl, ha.sound.append (.kw ht (.nil _))⟩

theorem ForInit.sound {ts r : List Token} {init : Option Stmt} (h : ForInit ts init r []) : Consumed ts r (rForInit init) := by
  cases h with
  | none hs => exact .kw hs (.nil _)
  | var hv hd =>
    obtain ⟨_, c, hx⟩ := hd.sound
    exact (Consumed.kw hv c).eq (by rw [rForInit, hx])
  | expr _ _ he =>
    obtain ⟨_, rfl, c⟩ := he.sound
    exact c

/-- `function` starts after the `ফাংশন` token, `block` after `{` -/
def SoundSAt : (g : FnS) → List Token → g.Out → List Token → Prop
  | .function, ts, s, r => ∃ x, Consumed ts r x ∧ rStmt s = kw .FUN :: x
  | .block, ts, ss, r => Consumed ts r (rStmts ss ++ [kw .RIGHT_BRACE])
  | .program, ts, ss, r => Consumed ts r (rStmts ss) ∧ ∃ e r', r = e :: r' ∧ e.tt = .EOF
  | .declaration, ts, s, r | .statement, ts, s, r => Consumed ts r (rStmt s)

theorem ParsesS.sound {g : FnS} {ts : List Token} {a : g.Out} {r : List Token} {ds : List Diag} (h : ParsesS g ts a r ds) :
    ds = [] → SoundSAt g ts a r := by
  induction h with
  | declFun ht _ ih =>
    intro hd
    obtain ⟨_, c, hx⟩ := ih hd
    exact (Consumed.kw ht c).eq hx.symm
  | declVar hv hd =>
    intro _
    obtain ⟨_, c, hx⟩ := hd.sound
    exact (Consumed.kw hv c).eq hx.symm
  | declStmt _ _ _ ih => exact ih
  | fun0 ht _ hlp hrp hlb _ ih =>
    exact fun hd => ⟨_, .idt ht (.kw hlp (.kw hrp (.kw hlb (ih hd)))), by simp [rStmt, rNames]⟩
  | funN ht _ hlp _ hps hrp hlb _ ih =>
    exact fun hd => ⟨_, .idt ht (.kw hlp (hps.sound.append (.kw hrp (.kw hlb (ih hd))))), by simp [rStmt]⟩
  | blockEnd ht => exact fun _ => .kw ht (.nil _)
  | blockEof _ => exact fun hd => nomatch hd
  | blockItem _ _ _ _ ihs ihss =>
    intro hd
    obtain ⟨rfl, rfl⟩ := List.append_eq_nil_iff.mp hd
    exact ((ihs rfl).append (ihss rfl)).eq (by simp [rStmts])
  | ifThen ht hlp hc hrp _ _ ihth =>
    exact fun hd => (Consumed.kw ht (.kw hlp (hc.sound.append (.kw hrp (ihth hd))))).eq (by simp [rStmt, rElse])
  | ifElse ht hlp hc hrp _ he _ ihth ihel =>
    intro hd
    obtain ⟨rfl, rfl⟩ := List.append_eq_nil_iff.mp hd
    exact (Consumed.kw ht (.kw hlp (hc.sound.append (.kw hrp ((ihth rfl).append (.kw he (ihel rfl))))))).eq
      (by simp [rStmt, rElse])
  | whileS ht hlp hc hrp _ ihb =>
    exact fun hd => (Consumed.kw ht (.kw hlp (hc.sound.append (.kw hrp (ihb hd))))).eq (by simp [rStmt])
  | forS ht hlp hinit hc hsc hi hrp _ ihb =>
    intro hd
    obtain ⟨rfl, rfl⟩ := List.append_eq_nil_iff.mp hd
    exact (Consumed.kw ht (.kw hlp (hinit.sound.append (hc.sound.append (.kw hsc (hi.sound.append (.kw hrp (ihb rfl)))))))).eq
      (by simp [rStmt])
  | print ht he =>
    rintro rfl
    obtain ⟨_, rfl, c⟩ := he.sound
    exact (Consumed.kw ht c).eq (by simp [rStmt])
  | return0 ht hs => exact fun _ => .kw ht (.kw hs (.nil _))
  | returnV ht _ hv hsm => exact fun _ => (Consumed.kw ht (hv.sound.append (.kw hsm (.nil _)))).eq (by simp [rStmt, rOptE])
  | breakS ht hs | continueS ht hs => exact fun _ => .kw ht (.kw hs (.nil _))
  | blockS ht _ ih => exact fun hd => (Consumed.kw ht (ih hd)).eq (by simp [rStmt])
  | exprS _ he =>
    rintro rfl
    obtain ⟨_, rfl, c⟩ := he.sound
    exact c
  | progEnd heof => exact fun _ => ⟨.nil _, _, _, rfl, heof⟩
  | progItem _ _ _ ihs ihss =>
    intro hd
    obtain ⟨rfl, rfl⟩ := List.append_eq_nil_iff.mp hd
    exact ⟨((ihs rfl).append (ihss rfl).1).eq (by simp [rStmts]), (ihss rfl).2⟩

theorem exprThenSemi_sound (f : Nat) (mk : Expr → Stmt) (ts : List Token) (s : Stmt) (r : List Token) (hw : AllWf ts)
    (h : exprThenSemi f mk ts = .ok s r []) :
    ∃ e pre, s = mk e ∧ ts = pre ++ r ∧ pre.map rtok = rExpr e ++ [kw .SEMICOLON] :=
  let ⟨e, he, c⟩ := ((spec_exprThenSemi f mk ts).of_ok h).sound
  let ⟨pre, h1, h2⟩ := c.rendering hw
  ⟨e, pre, he, h1, h2⟩

theorem params_sound (f n : Nat) (ts : List Token) (ns : List Name) (r : List Token) (h : params f n ts = .ok ns r) :
    ∃ pre, ts = pre ++ r ∧ pre.map rtok = rNames ns ∧ ns ≠ [] :=
  let d := (spec_params f n ts).of_ok h
  let ⟨pre, h1, h2⟩ := d.rendering
  ⟨pre, h1, h2, d.ne_nil⟩

theorem varDeclaration_sound (f : Nat) (ts : List Token) (s : Stmt) (r : List Token) (hw : AllWf ts)
    (h : varDeclaration f ts = .ok s r []) : ∃ pre, ts = pre ++ r ∧ rStmt s = kw .VAR :: pre.map rtok :=
  let ⟨_, c, hx⟩ := ((spec_varDeclaration f ts).of_ok h).1.sound
  let ⟨pre, h1, h2⟩ := c.rendering hw
  ⟨pre, h1, by rw [hx, h2]⟩

structure SoundS (f : Nat) : Prop where
  decl : ∀ ts s r, AllWf ts → declaration f ts = .ok s r [] → ∃ pre, ts = pre ++ r ∧ pre.map rtok = rStmt s
  fn : ∀ ts s r, AllWf ts → function f ts = .ok s r [] → ∃ pre, ts = pre ++ r ∧ kw .FUN :: pre.map rtok = rStmt s
  blk : ∀ ts ss r, AllWf ts → block f ts = .ok ss r [] → ∃ pre, ts = pre ++ r ∧ pre.map rtok = rStmts ss ++ [kw .RIGHT_BRACE]
  stmt : ∀ ts s r, AllWf ts → statement f ts = .ok s r [] → ∃ pre, ts = pre ++ r ∧ pre.map rtok = rStmt s

theorem soundS (f : Nat) : SoundS f where
  decl _ _ _ hw h := ((parsesS_of_run f .declaration h).sound rfl).rendering hw
  fn _ _ _ hw h := let ⟨_, c, hx⟩ := (parsesS_of_run f .function h).sound rfl; let ⟨pre, h1, h2⟩ := c.rendering hw; ⟨pre, h1, by rw [hx, h2]⟩
  blk _ _ _ hw h := ((parsesS_of_run f .block h).sound rfl).rendering hw
  stmt _ _ _ hw h := ((parsesS_of_run f .statement h).sound rfl).rendering hw

theorem program_sound (f : Nat) (ts : List Token) (p : List Stmt) (r : List Token) (hw : AllWf ts)
    (h : program f ts = .ok p r []) :
    ∃ pre, ts = pre ++ r ∧ pre.map rtok = rStmts p ∧ ∃ e r', r = e :: r' ∧ e.tt = .EOF :=
  let ⟨c, he⟩ := (parsesS_of_run f .program h).sound rfl
  let ⟨pre, h1, h2⟩ := c.rendering hw
  ⟨pre, h1, h2, he⟩

end Borno.Parser
