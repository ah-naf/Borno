import BornoModel.Cli
import BornoModel.Lemmas.ParseSafe
/-! The outcomes of the front end and what `run` answers on each.  `run`'s own fourth case, a clean front end without a
tree, is never reached: a parser that gives up has reported a diagnostic. -/
namespace Borno.Cli

theorem frontEnd_cases (lm : Char → Bool) (src : List Char) :
    (∃ a, (frontEnd lm src).abnormal = some a) ∨ (frontEnd lm src).diags ≠ [] ∨
    ∃ prog, (frontEnd lm src).abnormal = none ∧ (frontEnd lm src).diags = [] ∧ (frontEnd lm src).prog = some prog := by
  unfold frontEnd
  cases Lexer.scan lm src with
  | none => exact .inl ⟨_, rfl⟩
  | some tl =>
    obtain ⟨toks, ld⟩ := tl
    dsimp only
    cases hr : Parser.parse toks with
    | ok p r pd =>
      by_cases hd : ld ++ pd = []
      · exact .inr (.inr ⟨p, rfl, hd, rfl⟩)
      · exact .inr (.inl hd)
    | err pd => exact .inr (.inl (List.append_ne_nil_of_right_ne_nil _ (Parser.program_err_nonempty _ _ pd hr)))
    | abn a => exact .inl ⟨a, rfl⟩

variable {P : Platform} {src : List Char}

theorem run_abnormal {a : Abn} (h : (frontEnd P.lm src).abnormal = some a) (fuel : Nat) (repl : Bool) (input : List Char) :
    run P fuel src repl input =
      { staticDiags := (frontEnd P.lm src).diags, hadError := !(frontEnd P.lm src).diags.isEmpty, inputRest := input,
        abnormal := some a } := by
  unfold run
  simp only [h]

theorem run_rejected (h : (frontEnd P.lm src).diags ≠ []) (fuel : Nat) (repl : Bool) (input : List Char) :
    run P fuel src repl input =
      { staticDiags := (frontEnd P.lm src).diags, hadError := true, inputRest := input, abnormal := (frontEnd P.lm src).abnormal } := by
  have hne := List.isEmpty_eq_false_iff.mpr h
  unfold run
  cases hab : (frontEnd P.lm src).abnormal <;> simp [hne, hab]

theorem run_accepted {prog : List Stmt}
    (h : (frontEnd P.lm src).abnormal = none ∧ (frontEnd P.lm src).diags = [] ∧ (frontEnd P.lm src).prog = some prog)
    (fuel : Nat) (repl : Bool) (input : List Char) :
    run P fuel src repl input =
      match interpret P fuel prog repl input with
      | .ok _ σ =>
        { out := σ.out, runtimeDiags := σ.diags, hadRuntimeError := σ.hadError, inputRest := σ.input, nativeCalls := σ.nativeCalls }
      | .abn a => { inputRest := input, abnormal := some a } := by
  unfold run
  simp only [h.1, h.2.1, h.2.2, List.isEmpty_nil, Bool.not_true, Bool.false_eq_true, if_false]
  rfl

end Borno.Cli
