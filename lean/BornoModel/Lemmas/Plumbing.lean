import BornoModel.Eval
/-!
# Plumbing — what the evaluator's combinators do on each form of outcome

`Res.bind`, `ER.seq` and `guardErr` computed on `ok` / `abn` / a set flag, the inversion of a successful
`bind`, and what a successful `arityOf` / `checkIndex` says about its arguments.
-/
namespace Borno

namespace Res
variable {α β : Type}

@[simp] theorem bind_ok (a : α) (σ : Store) (k : α → Store → Res β) : (Res.ok a σ).bind k = k a σ := rfl

@[simp] theorem bind_abn (x : Abn) (k : α → Store → Res β) : (Res.abn x : Res α).bind k = .abn x := rfl

theorem bind_eq_ok {r : Res α} {k : α → Store → Res β} {b : β} {σ' : Store} :
    r.bind k = .ok b σ' ↔ ∃ a σ1, r = .ok a σ1 ∧ k a σ1 = .ok b σ' := by
  cases r with
  | ok a σ => exact ⟨fun h => ⟨a, σ, rfl, h⟩, fun ⟨_, _, h, hk⟩ => by cases h; exact hk⟩
  | abn x => simp

end Res

@[simp] theorem ER.seq_ok (v : Val) (σ : Store) (k : Val → Store → ER) : ER.seq (.ok (v, .none) σ) k = k v σ := by
  simp [ER.seq]

theorem ER.seq_sig {s : Signal} (h : s ≠ .none) (v : Val) (σ : Store) (k : Val → Store → ER) :
    ER.seq (.ok (v, s) σ) k = .ok (.nil, s) σ := by
  simp [ER.seq, h]

@[simp] theorem ER.seq_abn (x : Abn) (k : Val → Store → ER) : ER.seq (.abn x) k = .abn x := rfl

@[simp] theorem guardErr_ok {σ : Store} (h : σ.hadError = false) (k : ER) : guardErr σ k = k := by
  simp [guardErr, h]

@[simp] theorem guardErr_err {σ : Store} (h : σ.hadError = true) (k : ER) : guardErr σ k = nilOk σ := by
  simp [guardErr, h]

theorem arityOf_eq_some {σ : Store} {cv : Val} {k : Int} (h : arityOf σ cv = some k) :
    (∃ id cl, cv = .fn id ∧ σ.funs[id]? = some cl ∧ k = cl.params.length) ∨ ∃ n, cv = .native n ∧ k = Expect.arity n := by
  cases cv <;> simp [arityOf] at h
  · obtain ⟨cl, hcl, rfl⟩ := h; exact .inl ⟨_, cl, rfl, hcl, rfl⟩
  · exact .inr ⟨_, rfl, h.symm⟩

theorem checkIndex_eq_ok {σ : Store} {a i : Val} {msg : String} {r k : Nat} :
    checkIndex σ a i msg = .ok (r, k) ↔
      a = .arr r ∧ ∃ j : Int, toInt64 i = some j ∧ 0 ≤ j ∧ j.toNat = k ∧ k < (σ.arrs[r]?.getD []).length := by
  constructor
  · intro h
    unfold checkIndex at h
    split at h
    · split at h
      · cases h
      · rename_i j hj
        split at h
        · cases h
        · rename_i hb
          cases h
          simp only [Bool.or_eq_true, decide_eq_true_eq, not_or, Int.not_lt, Nat.not_le] at hb
          exact ⟨rfl, j, hj, hb.1, rfl, hb.2⟩
    · cases h
  · rintro ⟨rfl, j, hj, h0, rfl, hlt⟩
    simp only [checkIndex, hj]
    rw [if_neg]
    simp only [Bool.or_eq_true, decide_eq_true_eq, not_or, Int.not_lt, Nat.not_le]
    exact ⟨h0, hlt⟩

end Borno
