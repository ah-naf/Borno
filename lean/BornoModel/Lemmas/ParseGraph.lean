import BornoModel.Lemmas.ParserEqs
/-!
# ParseGraph — what a run of the expression parser can be

`Parses g ts a r`: a way for the function `g` to return `a` and the rest `r` on the tokens `ts`;
one constructor per path through a body that ends in `.ok` (for the loops `binLoop k l`, `suffix e0`
the tree parsed so far is part of `g`).  One relation indexed by the function, not eight mutual ones:
those have no `induction`, and recursion over them is dear to check.

`specE` walks each body once and establishes `Spec (Parses g ts) ts (g.run f ts)` for every fuel and
input: a returned result is a derivation; if `ts` contains an EOF token, so does the rest (no parsing
function consumes one), and the outcome is not the panic of reading past the end.
-/
namespace Borno.Parser

/-- a parsing function with its arguments other than fuel and tokens -/
inductive Fn : Type
  | assignment | binLevel (k : Nat) | binLoop (k : Nat) (l : Expr) | unary | suffix (e0 : Expr) | exprList | objProps | primary

/-- reducible, so that `.ident n l` elaborates against `(Fn.binLevel 0).Out` -/
@[reducible] def Fn.Out : Fn → Type
  | .exprList => List Expr
  | .objProps => List (Name × Expr) × Bool
  | _ => Expr

def Fn.run : (g : Fn) → Nat → List Token → PR g.Out
  | .assignment, f, ts => Parser.assignment f ts
  | .binLevel k, f, ts => Parser.binLevel f k ts
  | .binLoop k l, f, ts => Parser.binLoop f k l ts
  | .unary, f, ts => Parser.unary f ts
  | .suffix e0, f, ts => Parser.suffix f e0 ts
  | .exprList, f, ts => Parser.exprList f ts
  | .objProps, f, ts => Parser.objProps f ts
  | .primary, f, ts => Parser.primary f ts

inductive Parses : (g : Fn) → List Token → g.Out → List Token → Prop
  | pass {ts e t r} : Parses (.binLevel 0) ts e (t :: r) → t.tt ≠ .EQUAL → Parses .assignment ts e (t :: r)
  | assign {ts n l t r1 v r2} : Parses (.binLevel 0) ts (.ident n l) (t :: r1) → t.tt = .EQUAL → Parses .assignment r1 v r2 →
      Parses .assignment ts (.assign n l v t.line) r2
  | arrayAssign {ts a i l t r1 v r2} : Parses (.binLevel 0) ts (.arrayAccess a i l) (t :: r1) → t.tt = .EQUAL → Parses .assignment r1 v r2 →
      Parses .assignment ts (.arrayAssign a i v t.line) r2
  | propAssign {ts o p l t r1 v r2} : Parses (.binLevel 0) ts (.propAccess o p l) (t :: r1) → t.tt = .EQUAL → Parses .assignment r1 v r2 →
      Parses .assignment ts (.propAssign o p v t.line) r2
  | level {k ts l r0 e r} : k < nLevels → Parses (.binLevel (k + 1)) ts l r0 → Parses (.binLoop k l) r0 e r → Parses (.binLevel k) ts e r
  | top {k ts e r} : ¬ k < nLevels → Parses .unary ts e r → Parses (.binLevel k) ts e r
  | binStep {k l t r0 right r2 e r} : (levelOps k).contains t.tt = true → Parses (.binLevel (k + 1)) r0 right r2 →
      Parses (.binLoop k (mkBin k l t right)) r2 e r → Parses (.binLoop k l) (t :: r0) e r
  | binStop {k l t r} : ¬ (levelOps k).contains t.tt = true → Parses (.binLoop k l) (t :: r) l (t :: r)
  | unop {t r0 e r} : Expect.unaryOps.contains t.tt = true → Parses .unary r0 e r → Parses .unary (t :: r0) (.unary t.tt t.line e) r
  | operand {t r0 e1 r2 e r} : ¬ Expect.unaryOps.contains t.tt = true → Parses .primary (t :: r0) e1 r2 → Parses (.suffix e1) r2 e r →
      Parses .unary (t :: r0) e r
  | call0 {e0 t t2 r2 e r} : t.tt = .LEFT_PAREN → t2.tt = .RIGHT_PAREN → Parses (.suffix (.call e0 t2.line [])) r2 e r →
      Parses (.suffix e0) (t :: t2 :: r2) e r
  | call {e0 t t2 r2 args t3 r4 e r} : t.tt = .LEFT_PAREN → t2.tt ≠ .RIGHT_PAREN → Parses .exprList (t2 :: r2) args (t3 :: r4) →
      t3.tt = .RIGHT_PAREN → Parses (.suffix (.call e0 t3.line args)) r4 e r → Parses (.suffix e0) (t :: t2 :: r2) e r
  | index {e0 t r0 i t2 r3 e r} : t.tt = .LEFT_BRACKET → Parses .assignment r0 i (t2 :: r3) → t2.tt = .RIGHT_BRACKET →
      Parses (.suffix (.arrayAccess e0 i t2.line)) r3 e r → Parses (.suffix e0) (t :: r0) e r
  | prop {e0 t t2 r2 e r} : t.tt = .DOT → t2.tt = .IDENTIFIER → Parses (.suffix (.propAccess e0 t2.lexeme t2.line)) r2 e r →
      Parses (.suffix e0) (t :: t2 :: r2) e r
  | sufStop {e0 t r} : t.tt ≠ .LEFT_PAREN → t.tt ≠ .LEFT_BRACKET → t.tt ≠ .DOT → Parses (.suffix e0) (t :: r) e0 (t :: r)
  | listMore {ts a t r2 rest r3} : Parses .assignment ts a (t :: r2) → t.tt = .COMMA → Parses .exprList r2 rest r3 → Parses .exprList ts (a :: rest) r3
  | listOne {ts a t r2} : Parses .assignment ts a (t :: r2) → t.tt ≠ .COMMA → Parses .exprList ts [a] (t :: r2)
  | propsEnd {t r} : (t.tt = .RIGHT_BRACE || t.tt = .EOF) = true → Parses .objProps (t :: r) ([], false) (t :: r)
  | propsMore {t tc r1 v t2 r3 r4 ps} : t.tt = .IDENTIFIER → tc.tt = .COLON → Parses .assignment r1 v (t2 :: r3) → t2.tt = .COMMA →
      Parses .objProps r3 ps r4 → Parses .objProps (t :: tc :: r1) ((t.lexeme, v) :: ps.1, if ps.1.isEmpty then true else ps.2) r4
  | propsLast {t tc r1 v t2 r3} : t.tt = .IDENTIFIER → tc.tt = .COLON → Parses .assignment r1 v (t2 :: r3) → t2.tt ≠ .COMMA →
      Parses .objProps (t :: tc :: r1) ([(t.lexeme, v)], false) (t2 :: r3)
  | litFalse {t r} : t.tt = .FALSE → Parses .primary (t :: r) (.literal (.bool false) t.line) r
  | litTrue {t r} : t.tt = .TRUE → Parses .primary (t :: r) (.literal (.bool true) t.line) r
  | litNil {t r} : t.tt = .NIL → Parses .primary (t :: r) (.literal .nil t.line) r
  | number {t r} : t.tt = .NUMBER → Parses .primary (t :: r) (.literal (litOf t.lit) t.line) r
  | string {t r} : t.tt = .STRING → Parses .primary (t :: r) (.literal (litOf t.lit) t.line) r
  | ident {t r} : t.tt = .IDENTIFIER → Parses .primary (t :: r) (.ident t.lexeme t.line) r
  | group {t r e t2 r3} : t.tt = .LEFT_PAREN → Parses .assignment r e (t2 :: r3) → t2.tt = .RIGHT_PAREN →
      Parses .primary (t :: r) (.grouping e t2.line) r3
  | array0 {t t2 r2} : t.tt = .LEFT_BRACKET → t2.tt = .RIGHT_BRACKET → Parses .primary (t :: t2 :: r2) (.arrayLit []) r2
  | array {t t2 r2 es t3 r4} : t.tt = .LEFT_BRACKET → t2.tt ≠ .RIGHT_BRACKET → Parses .exprList (t2 :: r2) es (t3 :: r4) →
      t3.tt = .RIGHT_BRACKET → Parses .primary (t :: t2 :: r2) (.arrayLit es) r4
  | object {t r ps t3 r3} : t.tt = .LEFT_BRACE → Parses .objProps r ps (t3 :: r3) → t3.tt = .RIGHT_BRACE →
      Parses .primary (t :: r) (.objectLit ps.1 ps.2) r3

def HasEOF (ts : List Token) : Prop := ∃ t ∈ ts, t.tt = .EOF

theorem HasEOF.tail {t : Token} {r : List Token} (h : HasEOF (t :: r)) (ht : t.tt ≠ .EOF) : HasEOF r := by
  obtain ⟨x, hx, he⟩ := h
  rcases List.mem_cons.mp hx with rfl | hx
  · exact absurd he ht
  · exact ⟨x, hx, he⟩

theorem ite_ind {α : Type} {P : α → Prop} {c : Prop} [Decidable c] {x y : α} (hx : c → P x) (hy : ¬c → P y) :
    P (if c then x else y) := by
  split
  · exact hx ‹_›
  · exact hy ‹_›

theorem levelOps_ne_eof {k : Nat} {tt : TT} (h : (levelOps k).contains tt = true) : tt ≠ .EOF :=
  levelOps_forall (P := (· ≠ .EOF)) (by decide) h

theorem unaryOps_ne_eof {tt : TT} (h : Expect.unaryOps.contains tt = true) : tt ≠ .EOF := by
  rintro rfl
  exact absurd h (by decide)

/-- what a run on `ts` may be: a result satisfying `Q`, a diagnostic, out of fuel, and the panic only if `ts` has no EOF -/
def Spec {α : Type} (Q : α → List Token → Prop) (ts : List Token) : PR α → Prop
  | .ok a rest => Q a rest ∧ (HasEOF ts → HasEOF rest)
  | .err _ => True
  | .abn x => HasEOF ts → x ≠ .panic

namespace Spec
variable {α β : Type} {ts : List Token} {Q : α → List Token → Prop}

theorem ok {a : α} (h : Q a ts) : Spec Q ts (.ok a ts) := ⟨h, id⟩
theorem err {d : Diag} : Spec Q ts (.err d : PR α) := trivial
theorem fuel : Spec Q ts (.abn .fuel : PR α) := fun _ => by decide

theorem of_ok {x : PR α} {a : α} {r : List Token} (hx : Spec Q ts x) (h : x = .ok a r) : Q a r := by
  subst h; exact hx.1

theorem imp {Q' : α → List Token → Prop} {x : PR α} (hx : Spec Q ts x) (h : ∀ a r, Q a r → Q' a r) : Spec Q' ts x := by
  cases x with
  | ok a r => exact ⟨h a r hx.1, hx.2⟩
  | err d => trivial
  | abn a => exact hx

theorem mono {ts' : List Token} {x : PR α} (h : HasEOF ts → HasEOF ts') (hx : Spec Q ts' x) : Spec Q ts x := by
  cases x with
  | ok a r => exact ⟨hx.1, fun e => hx.2 (h e)⟩
  | err d => trivial
  | abn a => exact fun e => hx (h e)

/-- the token `t` just consumed was tested to be of the kind `x`, which is not EOF -/
theorem eat {t : Token} {r : List Token} {x : TT} {y : PR α} (ht : t.tt = x) (hy : Spec Q r y)
    (hx : x ≠ .EOF := by decide) : Spec Q (t :: r) y :=
  hy.mono fun e => e.tail (ht ▸ hx)

theorem bind {Q1 : α → List Token → Prop} {Q : β → List Token → Prop} {r : PR α} {k : α → List Token → PR β}
    (h1 : Spec Q1 ts r) (h2 : ∀ a r1, Q1 a r1 → Spec Q r1 (k a r1)) : Spec Q ts (r.bind k) := by
  cases r with
  | ok a r1 => exact (h2 a r1 h1.1).mono h1.2
  | err d => trivial
  | abn x => exact h1

theorem peek {k : Token → List Token → PR α} (hk : ∀ t r, ts = t :: r → Spec Q ts (k t r)) : Spec Q ts (peekTok ts k) := by
  cases ts with
  | nil => exact fun ⟨_, h, _⟩ => nomatch h
  | cons t r => exact hk t r rfl

theorem expectTok {tt : TT} {msg : String} (htt : tt ≠ .EOF := by decide) :
    Spec (fun t r => ts = t :: r ∧ t.tt = tt) ts (expectTok tt msg ts) := by
  refine peek ?_
  rintro t r rfl
  exact ite_ind (fun ht => eat ht (ok ⟨rfl, ht⟩) htt) fun _ => err

/-- an `expectTok` for a kind that is not EOF, and what follows it -/
theorem expect {Q : β → List Token → Prop} {tt : TT} {msg : String} {k : Token → List Token → PR β} (htt : tt ≠ .EOF := by decide)
    (hk : ∀ t r, ts = t :: r → t.tt = tt → Spec Q r (k t r)) : Spec Q ts ((Parser.expectTok tt msg ts).bind k) :=
  (expectTok htt).bind fun t r h => hk t r h.1 h.2

end Spec

/-- the result types are written out: left as `(Fn.suffix e).Out`, unification with a goal about `suffix f e' ts`
    would begin by equating `e` and `e'` -/
structure SpecE (f : Nat) : Prop where
  asg : ∀ ts, Spec (α := Expr) (Parses .assignment ts) ts (assignment f ts)
  lvl : ∀ k ts, Spec (α := Expr) (Parses (.binLevel k) ts) ts (binLevel f k ts)
  loop : ∀ k l ts, Spec (α := Expr) (Parses (.binLoop k l) ts) ts (binLoop f k l ts)
  un : ∀ ts, Spec (α := Expr) (Parses .unary ts) ts (unary f ts)
  suf : ∀ e ts, Spec (α := Expr) (Parses (.suffix e) ts) ts (suffix f e ts)
  lst : ∀ ts, Spec (α := List Expr) (Parses .exprList ts) ts (exprList f ts)
  obj : ∀ ts, Spec (α := List (Name × Expr) × Bool) (Parses .objProps ts) ts (objProps f ts)
  prim : ∀ ts, Spec (α := Expr) (Parses .primary ts) ts (primary f ts)

theorem specE : ∀ f, SpecE f := by
  intro f
  induction f with
  | zero =>
    exact ⟨fun _ => .fuel, fun _ _ => .fuel, fun _ _ _ => .fuel, fun _ => .fuel, fun _ _ => .fuel, fun _ => .fuel,
      fun _ => .fuel, fun _ => .fuel⟩
  | succ f ih =>
    refine ⟨?_, ?_, ?_, ?_, ?_, ?_, ?_, ?_⟩
    · intro ts
      rw [assignment]
      refine (ih.lvl 0 ts).bind fun e r h0 => .peek ?_
      rintro t r1 rfl
      refine ite_ind (fun ht => .eat ht ((ih.asg r1).bind fun v r2 hv => ?_)) fun ht => .ok (.pass h0 ht)
      split
      · exact .ok (.assign h0 ht hv)
      · exact .ok (.arrayAssign h0 ht hv)
      · exact .ok (.propAssign h0 ht hv)
      · exact .err
    · intro k ts
      rw [binLevel]
      refine ite_ind (fun hk => ?_) fun hk => (ih.un ts).imp fun _ _ h => .top hk h
      exact (ih.lvl (k + 1) ts).bind fun l r hl => (ih.loop k l r).imp fun _ _ h => .level hk hl h
    · intro k l ts
      rw [binLoop]
      refine .peek ?_
      rintro t r rfl
      refine ite_ind (fun ht => .eat rfl ?_ (levelOps_ne_eof ht)) fun ht => .ok (.binStop ht)
      exact (ih.lvl (k + 1) r).bind fun _ r2 hr => (ih.loop k _ r2).imp fun _ _ h => .binStep ht hr h
    · intro ts
      rw [unary]
      refine .peek ?_
      rintro t r rfl
      refine ite_ind (fun ht => .eat rfl ((ih.un r).bind fun _ _ he => .ok (.unop ht he)) (unaryOps_ne_eof ht)) fun ht => ?_
      exact (ih.prim _).bind fun e r2 he => (ih.suf e r2).imp fun _ _ h => .operand ht he h
    · intro e0 ts
      rw [suffix]
      refine .peek ?_
      rintro t r rfl
      refine ite_ind (fun h1 => .eat h1 (.peek ?_)) fun h1 => ite_ind (fun h2 => .eat h2 ?_) fun h2 =>
        ite_ind (fun h3 => .eat h3 ?_) fun h3 => .ok (.sufStop h1 h2 h3)
      · rintro t2 r2 rfl
        refine ite_ind (fun h2 => .eat h2 ((ih.suf _ r2).imp fun _ _ h => .call0 h1 h2 h)) fun h2 => ?_
        refine (ih.lst _).bind fun _ _ ha => .expect (hk := ?_)
        rintro t3 r4 rfl h3
        exact (ih.suf _ r4).imp fun _ _ h => .call h1 h2 ha h3 h
      · refine (ih.asg r).bind fun _ _ hi => .expect (hk := ?_)
        rintro t2 r3 rfl h3
        exact (ih.suf _ r3).imp fun _ _ h => .index h2 hi h3 h
      · refine .expect (hk := ?_)
        rintro t2 r2 rfl h4
        exact (ih.suf _ r2).imp fun _ _ h => .prop h3 h4 h
    · intro ts
      rw [exprList]
      refine (ih.asg ts).bind fun a r ha => .peek ?_
      rintro t r2 rfl
      exact ite_ind (fun ht => .eat ht ((ih.lst r2).bind fun _ _ hr => .ok (.listMore ha ht hr))) fun ht => .ok (.listOne ha ht)
    · intro ts
      rw [objProps]
      refine .peek ?_
      rintro t r rfl
      refine ite_ind (fun hend => .ok (.propsEnd hend)) fun _ => ?_
      -- the colon is looked for in `r`, not in what reading the name left
      by_cases hid : t.tt = .IDENTIFIER
      · rw [expectTok_hit hid, PR.bind]
        refine .eat hid (.expect (hk := ?_))
        rintro tc r1 rfl hc
        refine (ih.asg r1).bind fun v r2 hv => .peek ?_
        rintro t2 r3 rfl
        refine ite_ind (fun h2 => .eat h2 ?_) fun h2 => .ok (.propsLast hid hc hv h2)
        exact (ih.obj r3).bind fun ps _ hp => .ok (.propsMore hid hc hv h2 hp)
      · rw [expectTok_miss hid]
        exact .err
    · intro ts
      rw [primary]
      refine .peek ?_
      rintro t r rfl
      split
      · next h => exact .eat h (.ok (.litFalse h))
      · next h => exact .eat h (.ok (.litTrue h))
      · next h => exact .eat h (.ok (.litNil h))
      · next h => exact .eat h (.ok (.number h))
      · next h => exact .eat h (.ok (.string h))
      · next h => exact .eat h (.ok (.ident h))
      · next h =>
        refine .eat h ((ih.asg r).bind fun e _ he => .expect (hk := ?_))
        rintro t2 r3 rfl h2
        exact .ok (.group h he h2)
      · next h =>
        refine .eat h (.peek ?_)
        rintro t2 r2 rfl
        refine ite_ind (fun h2 => .eat h2 (.ok (.array0 h h2))) fun h2 => ?_
        refine (ih.lst _).bind fun es _ hes => .expect (hk := ?_)
        rintro t3 r4 rfl h3
        exact .ok (.array h h2 hes h3)
      · next h =>
        refine .eat h ((ih.obj r).bind fun ps _ hps => .expect (hk := ?_))
        rintro t3 r3 rfl h3
        exact .ok (.object h hps h3)
      · exact .err

theorem Fn.spec (f : Nat) : ∀ (g : Fn) (ts : List Token), Spec (Parses g ts) ts (g.run f ts)
  | .assignment, ts => (specE f).asg ts
  | .binLevel k, ts => (specE f).lvl k ts
  | .binLoop k l, ts => (specE f).loop k l ts
  | .unary, ts => (specE f).un ts
  | .suffix e, ts => (specE f).suf e ts
  | .exprList, ts => (specE f).lst ts
  | .objProps, ts => (specE f).obj ts
  | .primary, ts => (specE f).prim ts

theorem parses_of_run (f : Nat) (g : Fn) {ts : List Token} {a : g.Out} {r : List Token} (h : g.run f ts = .ok a r) :
    Parses g ts a r :=
  (g.spec f ts).of_ok h

theorem Parses.ne_nil {ts r : List Token} {es : List Expr} (h : Parses .exprList ts es r) : es ≠ [] := by
  cases h <;> simp

theorem Parses.noComma_of_nil {ts r : List Token} {ps : List (Name × Expr) × Bool} (h : Parses .objProps ts ps r) :
    ps.1 = [] → ps.2 = false := by
  cases h <;> simp

end Borno.Parser
