import BornoModel.Lemmas.ParseComplete
/-!
# ParseCompleteStmt — every well-formed program is what `Parse` returns for its own rendering

The statement-level converse of `ParseSoundStmt`: for every list of statements satisfying `wfSs`,
`program` applied to the rendering followed by EOF returns the program (line fields forgotten),
without diagnostics, for all sufficiently large fuel.  Together with soundness: a token list is
accepted without diagnostics iff it is the rendering of a well-formed program.
-/
namespace Borno.Parser
open Grammar

theorem ev_sbind {α β : Type} {p : Nat → SR α} {q : Nat → α → List Token → SR β} {a : α} {r1 : List Token} {v : SR β}
    (h1 : Ev p (.ok a r1 [])) (h2 : Ev (fun f => q f a r1) v) : Ev (fun f => (p f).bind (q f)) v := by
  obtain ⟨f1, h1⟩ := h1; obtain ⟨f2, h2⟩ := h2
  exact ⟨max f1 f2, fun f hf => by simp only [h1 f (by omega), SR.ok_nil_bind]; exact h2 f (by omega)⟩

theorem ev_toSR {α : Type} {p : Nat → PR α} {a : α} {r : List Token} (h : Ev p (.ok a r)) :
    Ev (fun f => (p f).toSR) (.ok a r []) := by
  obtain ⟨f0, h⟩ := h
  exact ⟨f0, fun f hf => by simp only [h f hf, PR.toSR]⟩

def toksI (init : Option Expr) : List Token := (rInit init).map tk
def toksDs (ds : List VarDecl) : List Token := (rDecls ds).map tk
def toksNames (ns : List Name) : List Token := (rNames ns).map tk
def toksOE (o : Option Expr) : List Token := (rOptE o).map tk
def toksInit (o : Option Stmt) : List Token := (rForInit o).map tk
def toksElse (o : Option Stmt) : List Token := (rElse o).map tk

theorem toksDs_one (d : VarDecl) : toksDs [d] = tk (idt d.name) :: toksI d.init := by simp [toksDs, toksI, rDecls, rDecl]
theorem toksDs_more (d d2 : VarDecl) (ds : List VarDecl) :
    toksDs (d :: d2 :: ds) = tk (idt d.name) :: (toksI d.init ++ tk (kw .COMMA) :: toksDs (d2 :: ds)) := by
  simp [toksDs, toksI, rDecls, rDecl]
theorem toksNames_one (n : Name) : toksNames [n] = [tk (idt n)] := by simp [toksNames, rNames]
theorem toksNames_more (n m : Name) (ns : List Name) : toksNames (n :: m :: ns) = tk (idt n) :: tk (kw .COMMA) :: toksNames (m :: ns) := by
  simp [toksNames, rNames]

theorem toksS_expr (e : Expr) : toksS (.expr e) = toks e ++ [tk (kw .SEMICOLON)] := by simp [toksS, rStmt, toks]
theorem toksS_print (e : Expr) : toksS (.print e) = tk (kw .PRINT) :: (toks e ++ [tk (kw .SEMICOLON)]) := by simp [toksS, rStmt, toks]
theorem toksS_block (ss : List Stmt) : toksS (.block ss) = tk (kw .LEFT_BRACE) :: (toksSs ss ++ [tk (kw .RIGHT_BRACE)]) := by
  simp [toksS, toksSs, rStmt]
theorem toksS_if (c : Expr) (t : Stmt) (e : Option Stmt) :
    toksS (.ifS c t e) = tk (kw .IF) :: tk (kw .LEFT_PAREN) :: (toks c ++ tk (kw .RIGHT_PAREN) :: (toksS t ++ toksElse e)) := by
  simp [toksS, toksElse, rStmt, toks]
theorem toksS_while (c : Expr) (b : Stmt) :
    toksS (.whileS c b) = tk (kw .WHILE) :: tk (kw .LEFT_PAREN) :: (toks c ++ tk (kw .RIGHT_PAREN) :: toksS b) := by
  simp [toksS, rStmt, toks]
theorem toksS_for (init : Option Stmt) (c inc : Option Expr) (b : Stmt) :
    toksS (.forS init c inc b) = tk (kw .FOR) :: tk (kw .LEFT_PAREN) ::
      (toksInit init ++ (toksOE c ++ tk (kw .SEMICOLON) :: (toksOE inc ++ tk (kw .RIGHT_PAREN) :: toksS b))) := by
  simp [toksS, toksInit, toksOE, rStmt]
theorem toksS_return (l : Nat) (v : Option Expr) : toksS (.returnS l v) = tk (kw .RETURN) :: (toksOE v ++ [tk (kw .SEMICOLON)]) := by
  simp [toksS, toksOE, rStmt]
theorem toksS_fun (n : Name) (ps : List Name) (body : List Stmt) :
    toksS (.funS n ps body) = tk (kw .FUN) :: tk (idt n) :: tk (kw .LEFT_PAREN) ::
      (toksNames ps ++ tk (kw .RIGHT_PAREN) :: tk (kw .LEFT_BRACE) :: (toksSs body ++ [tk (kw .RIGHT_BRACE)])) := by
  simp [toksS, toksSs, toksNames, rStmt]
theorem toksSs_nil : toksSs [] = [] := rfl
theorem toksSs_cons (s : Stmt) (ss : List Stmt) : toksSs (s :: ss) = toksS s ++ toksSs ss := by simp [toksSs, toksS, rStmts]

/-- the optional initializer of a declared name, up to the `,` or `;` after it -/
theorem ev_varInit (init : Option Expr) (hw : wfOE init = true) {t : Token} (rest : List Token) (ht : followA t.tt = true) :
    Ev (fun f => peekTok (toksI init ++ t :: rest) fun e r1 =>
        if e.tt = .EQUAL then (assignment f r1).bind fun v r2 => .ok (some v) r2 else .ok none (toksI init ++ t :: rest))
      (.ok (eraseOE init) (t :: rest)) := by
  cases init with
  | none =>
    simp only [toksI, rInit, List.map_nil, List.nil_append, peekTok_cons, if_neg (followA_iff.1 ht).2.2]
    exact Ev.const
  | some e =>
    simp only [toksI, rInit, List.map_cons, List.cons_append, peekTok_cons, tk_kw_tt, if_true]
    exact ev_bind ((claims e).A hw t rest ht) Ev.const

/-- rendered tokens all stand on line 0 (`tk_line`), so the rule that a non-literal initialiser must be followed on the
    line of the `ধরি` never fires: the `simp` sets below decide `p.line ≠ 0` -/
theorem decls_claim : ∀ (d : VarDecl) (ds : List VarDecl), (d :: ds).all wfDecl = true → ∀ rest,
    Ev (fun f => varDecls f 0 (toksDs (d :: ds) ++ tk (kw .SEMICOLON) :: rest)) (.ok ((d :: ds).map eraseD) (tk (kw .SEMICOLON) :: rest))
  | d, [], hw, rest => by
    simp only [List.all_cons, List.all_nil, Bool.and_true, wfDecl, Bool.and_eq_true, Bool.not_eq_true'] at hw
    rw [toksDs_one]
    refine ev_succ (fun _ => varDecls_succ rfl hw.1) (ev_bind (ev_varInit d.init hw.2 rest (follow_closer _ (by decide))) ?_)
    simp only [peekTok_cons, tk_line, ne_eq, not_true_eq_false, decide_false, Bool.and_false, Bool.false_eq_true, tk_kw_tt,
      reduceCtorEq, if_false]
    exact Ev.const
  | d, d2 :: ds, hw, rest => by
    rw [List.all_cons, Bool.and_eq_true, wfDecl, Bool.and_eq_true, Bool.not_eq_true'] at hw
    rw [toksDs_more]
    simp only [List.cons_append, List.append_assoc]
    refine ev_succ (fun _ => varDecls_succ rfl hw.1.1) (ev_bind (ev_varInit d.init hw.1.2 _ (follow_closer _ (by decide))) ?_)
    simp only [peekTok_cons, tk_line, ne_eq, not_true_eq_false, decide_false, Bool.and_false, Bool.false_eq_true, tk_kw_tt, if_false,
      if_true]
    exact ev_bind (decls_claim d2 ds hw.2 rest) Ev.const

/-- the statement a `ধরি` with the declarations `ds` becomes -/
def varStmt : List VarDecl → Stmt
  | [d] => .var d
  | ds => .varList ds

theorem toksS_varStmt (d : VarDecl) (ds : List VarDecl) :
    toksS (varStmt (d :: ds)) = tk (kw .VAR) :: (toksDs (d :: ds) ++ [tk (kw .SEMICOLON)]) := by
  cases ds <;> simp [varStmt, toksS, rStmt, toksDs, rDecls]

theorem wfS_varStmt (d : VarDecl) (ds : List VarDecl) : wfS (varStmt (d :: ds)) = (d :: ds).all wfDecl := by
  cases ds <;> simp [varStmt, wfS]

theorem ev_varStmt (d : VarDecl) (ds : List VarDecl) (hw : wfS (varStmt (d :: ds)) = true) (rest : List Token) :
    Ev (fun f => varDeclaration f (toksDs (d :: ds) ++ tk (kw .SEMICOLON) :: rest)) (.ok (eraseS (varStmt (d :: ds))) rest []) := by
  have h := decls_claim d ds (wfS_varStmt d ds ▸ hw) rest
  obtain ⟨xs, hx⟩ : ∃ xs, toksDs (d :: ds) = tk (idt d.name) :: xs := by
    cases ds with
    | nil => exact ⟨_, toksDs_one d⟩
    | cons d2 ds => exact ⟨_, toksDs_more d d2 ds⟩
  rw [hx] at h ⊢
  refine Ev.congr (fun f => varDeclaration_cons f _ _) (ev_toSR (ev_bind_expect h rfl (Ev.congr (fun _ => ?_) Ev.const)))
  cases ds <;> rfl

theorem ev_exprThenSemi (mk : Expr → Stmt) (e : Expr) (hf : fits 0 e = true) (rest : List Token) :
    Ev (fun f => exprThenSemi f mk (toks e ++ tk (kw .SEMICOLON) :: rest)) (.ok (mk (eraseE e)) rest []) :=
  ev_sbind (ev_toSR ((claims e).A hf _ rest (follow_closer _ (by decide))))
    (ev_sbind (Ev.congr (fun _ => lenient_hit rfl _ _) Ev.const) Ev.const)

theorem params_claim : ∀ (a : Name) (ns : List Name) (n : Nat), n + ns.length < Expect.maxParams → ∀ rest,
    Ev (fun f => params f n (toksNames (a :: ns) ++ tk (kw .RIGHT_PAREN) :: rest)) (.ok (a :: ns) (tk (kw .RIGHT_PAREN) :: rest))
  | a, [], n, hn, rest => by
    rw [toksNames_one]
    exact ev_succ (fun _ => params_last (Nat.not_le.2 hn) rfl (by decide)) Ev.const
  | a, b :: ns, n, hn, rest => by
    rw [toksNames_more]
    rw [List.length_cons] at hn
    exact ev_succ (fun _ => params_more (by omega) rfl rfl) (ev_bind (params_claim b ns (n + 1) (by omega) rest) Ev.const)

theorem ev_optExpr {stop : TT} (hstop : followA stop = true) (hns : ∀ tt ∈ exprStart, tt ≠ stop)
    (o : Option Expr) (hf : wfOE o = true) (rest : List Token) :
    Ev (fun f => optExprUntil stop f (toksOE o ++ tk (kw stop) :: rest)) (.ok (eraseOE o) (tk (kw stop) :: rest)) := by
  cases o with
  | none => exact Ev.congr (fun _ => optExprUntil_stop rfl) Ev.const
  | some e =>
    have h := (claims e).A hf (tk (kw stop)) rest hstop
    obtain ⟨x, xs, hx, _, hs⟩ := toks_start hf
    rw [show toksOE (some e) = toks e from rfl]
    rw [hx] at h ⊢
    exact Ev.congr (fun _ => optExprUntil_expr (hns _ hs)) (ev_bind h Ev.const)

theorem ev_forHeader (c inc : Option Expr) (hc : wfOE c = true) (hi : wfOE inc = true) (rest : List Token) :
    Ev (fun f => forHeader f (toksOE c ++ tk (kw .SEMICOLON) :: (toksOE inc ++ tk (kw .RIGHT_PAREN) :: rest)))
      (.ok (eraseOE c, eraseOE inc) rest) :=
  ev_bind_expect (ev_optExpr (follow_closer _ (by decide)) (fun tt h => exprStart_ne tt h _ (by decide)) c hc _) rfl
    (ev_bind_expect (ev_optExpr (follow_closer _ (by decide)) (fun tt h => exprStart_ne tt h _ (by decide)) inc hi rest) rfl Ev.const)

theorem ev_forInit_var (d : VarDecl) (ds : List VarDecl) (hw : wfS (varStmt (d :: ds)) = true) (rest : List Token) :
    Ev (fun f => forInit f (toksS (varStmt (d :: ds)) ++ rest)) (.ok (some (eraseS (varStmt (d :: ds)))) rest []) := by
  rw [toksS_varStmt]
  simp only [List.append_assoc, List.cons_append, List.nil_append]
  exact Ev.congr (fun _ => forInit_var rfl) (ev_sbind (ev_varStmt d ds hw rest) Ev.const)

theorem ev_forInit : ∀ (init : Option Stmt), wfInit init = true → ∀ rest,
    Ev (fun f => forInit f (toksInit init ++ rest)) (.ok (eraseOS init) rest [])
  | none, _, rest => Ev.congr (fun _ => forInit_none rfl) Ev.const
  | some (.expr e), hw, rest => by
    have h := ev_exprThenSemi .expr e hw rest
    obtain ⟨x, xs, hx, _, hs⟩ := toks_start hw
    rw [show toksInit (some (.expr e)) = toksS (.expr e) from rfl, toksS_expr, List.append_assoc]
    rw [hx] at h ⊢
    exact Ev.congr (fun _ => forInit_expr (exprStart_ne _ hs _ (by decide)) (exprStart_ne _ hs _ (by decide))) (ev_sbind h Ev.const)
  | some (.var d), hw, rest => ev_forInit_var d [] hw rest
  | some (.varList (d :: d2 :: ds)), hw, rest => ev_forInit_var d (d2 :: ds) hw rest

/-- the first token of a statement's rendering: never `}`, EOF or `নাহয়`; for statements proper also not `ফাংশন` / `ধরি` -/
theorem toksS_head : ∀ (s : Stmt), wfS s = true →
    ∃ x xs, toksS s = x :: xs ∧ x.tt ≠ .RIGHT_BRACE ∧ x.tt ≠ .EOF ∧ x.tt ≠ .ELSE ∧ (isPlain s = true → x.tt ≠ .FUN ∧ x.tt ≠ .VAR)
  | .expr e => fun hw => by
    rw [wfS, Bool.and_eq_true] at hw
    obtain ⟨x, xs, hx, _, hs⟩ := toks_start hw.1
    have ne := exprStart_ne _ hs
    exact ⟨x, _, by rw [toksS_expr, hx]; rfl, ne _ (by decide), ne _ (by decide), ne _ (by decide), fun _ => ⟨ne _ (by decide), ne _ (by decide)⟩⟩
  | .var .. | .varList .. | .funS .. => fun _ => ⟨_, _, rfl, by decide, by decide, by decide, nofun⟩
  | .print .. | .block .. | .ifS .. | .whileS .. | .forS .. | .breakS .. | .continueS .. | .returnS .. => fun _ =>
    ⟨_, _, rfl, by decide, by decide, by decide, fun _ => ⟨by decide, by decide⟩⟩

def StAt (s : Stmt) : Prop := wfS s = true → isPlain s = true → ∀ t rest, (openIf s = true → t.tt ≠ .ELSE) →
    Ev (fun f => statement f (toksS s ++ t :: rest)) (.ok (eraseS s) (t :: rest) [])

def DeAt (s : Stmt) : Prop := wfS s = true → ∀ t rest, (openIf s = true → t.tt ≠ .ELSE) →
    Ev (fun f => declaration f (toksS s ++ t :: rest)) (.ok (eraseS s) (t :: rest) [])

def BlAt (ss : List Stmt) : Prop := wfSs ss = true → ∀ rest,
    Ev (fun f => block f (toksSs ss ++ tk (kw .RIGHT_BRACE) :: rest)) (.ok (eraseSs ss) rest [])

structure SClaims (s : Stmt) : Prop where
  St : StAt s
  De : DeAt s

/-- a statement proper is parsed by `declaration` through `statement` -/
theorem sclaims_of_St {s : Stmt} (hp : isPlain s = true) (hS : StAt s) : SClaims s := by
  refine ⟨hS, fun hw t rest ho => ?_⟩
  obtain ⟨x, xs, hx, _, _, _, hfv⟩ := toksS_head s hw
  have h := hS hw hp t rest ho
  rw [hx] at h ⊢
  exact ev_succ (fun _ => declaration_stmt (hfv hp).1 (hfv hp).2) h

theorem exprStart_stmt : ∀ tt ∈ exprStart, tt ≠ .LEFT_BRACE →
    tt ∉ [TT.IF, .WHILE, .FOR, .PRINT, .RETURN, .BREAK, .CONTINUE, .LEFT_BRACE] := by decide +kernel

theorem st_expr (e : Expr) : SClaims (.expr e) :=
  sclaims_of_St rfl fun hw _ t rest _ => by
    simp only [wfS, Bool.and_eq_true, bne_iff_ne] at hw
    have h := ev_exprThenSemi .expr e hw.1 (t :: rest)
    obtain ⟨x, xs, hx, hxt, hs⟩ := toks_start hw.1
    rw [toksS_expr, List.append_assoc]
    rw [hx] at h ⊢
    exact ev_succ (fun _ => statement_expr (exprStart_stmt _ hs (hxt ▸ hw.2))) h

theorem st_print (e : Expr) : SClaims (.print e) :=
  sclaims_of_St rfl fun hw _ t rest _ => by
    rw [toksS_print]
    simp only [List.append_assoc, List.cons_append, List.nil_append]
    exact ev_succ (fun _ => statement_print rfl) (ev_exprThenSemi .print e hw (t :: rest))

theorem st_break (l : Nat) : SClaims (.breakS l) :=
  sclaims_of_St rfl fun _ _ _ _ _ => ev_succ (fun _ => statement_break rfl) Ev.const

theorem st_continue (l : Nat) : SClaims (.continueS l) :=
  sclaims_of_St rfl fun _ _ _ _ _ => ev_succ (fun _ => statement_continue rfl) Ev.const

theorem st_return (l : Nat) (v : Option Expr) : SClaims (.returnS l v) :=
  sclaims_of_St rfl fun hw _ t rest _ => by
    rw [toksS_return]
    simp only [List.append_assoc, List.cons_append, List.nil_append]
    refine ev_succ (fun _ => statement_return rfl) (ev_toSR ?_)
    cases v with
    | none => exact Ev.const
    | some e =>
      have h := (claims e).A hw (tk (kw .SEMICOLON)) (t :: rest) (follow_closer _ (by decide))
      obtain ⟨x, xs, hx, _, hs⟩ := toks_start hw
      rw [show toksOE (some e) = toks e from rfl]
      rw [hx] at h ⊢
      simp only [List.cons_append, peekTok_cons, if_neg (exprStart_ne _ hs .SEMICOLON (by decide))]
      exact ev_bind_expect h rfl Ev.const

theorem st_block {ss : List Stmt} (hB : BlAt ss) : SClaims (.block ss) :=
  sclaims_of_St rfl fun hw _ t rest _ => by
    rw [toksS_block]
    simp only [List.append_assoc, List.cons_append, List.nil_append]
    exact ev_succ (fun _ => statement_block rfl) (ev_sbind (hB hw (t :: rest)) Ev.const)

/-- `( condition )` after `যদি` / `যতক্ষণ` -/
theorem ev_cond {m1 m2 : String} (c : Expr) (hf : fits 0 c = true) (rest : List Token) :
    Ev (fun f => ((expectTok .LEFT_PAREN m1 (tk (kw .LEFT_PAREN) :: (toks c ++ tk (kw .RIGHT_PAREN) :: rest))).bind fun _ r1 =>
        (assignment f r1).bind fun c r2 => (expectTok .RIGHT_PAREN m2 r2).bind fun _ r3 => .ok c r3).toSR)
      (.ok (eraseE c) rest []) :=
  ev_toSR (ev_bind (ev_expect rfl)
    (ev_bind_expect ((claims c).A hf _ rest (follow_closer _ (by decide))) rfl Ev.const))

theorem st_while (c : Expr) {b : Stmt} (hb : StAt b) : SClaims (.whileS c b) :=
  sclaims_of_St rfl fun hw _ t rest ho => by
    simp only [wfS, Bool.and_eq_true] at hw
    rw [toksS_while]
    simp only [List.append_assoc, List.cons_append]
    exact ev_succ (fun _ => statement_while rfl) (ev_sbind (ev_cond c hw.1.1 _) (ev_sbind (hb hw.2 hw.1.2 t rest ho) Ev.const))

theorem st_if (c : Expr) {th : Stmt} (hth : StAt th) : ∀ {el : Option Stmt}, (∀ e, el = some e → StAt e) → SClaims (.ifS c th el)
  | none, _ => sclaims_of_St rfl fun hw _ t rest ho => by
    simp only [wfS, Bool.and_eq_true] at hw
    have htne : t.tt ≠ .ELSE := ho rfl
    rw [toksS_if]
    simp only [toksElse, rElse, List.map_nil, List.append_nil, List.append_assoc, List.cons_append]
    refine ev_succ (fun _ => statement_if rfl) (ev_sbind (ev_cond c hw.1.1.1 _) (ev_sbind (hth hw.1.2 hw.1.1.2 t rest fun _ => htne) ?_))
    simp only [peekTokS_cons, if_neg htne]
    exact Ev.const
  | some e, hel => sclaims_of_St rfl fun hw _ t rest ho => by
    simp only [wfS, wfElse, Bool.and_eq_true, Bool.not_eq_true'] at hw
    rw [toksS_if, show toksElse (some e) = tk (kw .ELSE) :: toksS e from rfl]
    simp only [List.append_assoc, List.cons_append]
    refine ev_succ (fun _ => statement_if rfl) (ev_sbind (ev_cond c hw.1.1.1 _)
      (ev_sbind (hth hw.1.2 hw.1.1.2 (tk (kw .ELSE)) _ fun h => by rw [hw.2.1.1] at h; cases h) ?_))
    simp only [peekTokS_cons, tk_kw_tt, if_true]
    exact ev_sbind (hel e rfl hw.2.2 hw.2.1.2 t rest ho) Ev.const

theorem st_for (init : Option Stmt) (c inc : Option Expr) {b : Stmt} (hb : StAt b) : SClaims (.forS init c inc b) :=
  sclaims_of_St rfl fun hw _ t rest ho => by
    simp only [wfS, Bool.and_eq_true] at hw
    rw [toksS_for]
    simp only [List.append_assoc, List.cons_append]
    exact ev_succ (fun _ => statement_for rfl) (ev_sbind (ev_toSR (ev_expect rfl))
      (ev_sbind (ev_forInit init hw.1.1.1.1 _) (ev_sbind (ev_toSR (ev_forHeader c inc hw.1.1.1.2 hw.1.1.2 _))
        (ev_sbind (hb hw.2 hw.1.2 t rest ho) Ev.const))))

theorem st_varStmt (d : VarDecl) (ds : List VarDecl) : SClaims (varStmt (d :: ds)) := by
  refine ⟨fun _ hp => (by cases ds <;> cases hp), fun hw t rest _ => ?_⟩
  rw [toksS_varStmt]
  simp only [List.append_assoc, List.cons_append, List.nil_append]
  exact ev_succ (fun _ => declaration_var rfl) (ev_varStmt d ds hw (t :: rest))

theorem st_fun (n : Name) (ps : List Name) {body : List Stmt} (hB : BlAt body) : SClaims (.funS n ps body) := by
  refine ⟨fun _ => nofun, fun hw t rest _ => ?_⟩
  simp only [wfS, Bool.and_eq_true, Bool.not_eq_true', decide_eq_true_eq] at hw
  rw [toksS_fun]
  simp only [List.append_assoc, List.cons_append, List.nil_append]
  refine ev_succ (fun _ => declaration_fun rfl) (ev_succ (fun _ => function_succ rfl hw.1.1)
    (ev_sbind (ev_toSR (ev_bind (ev_expect rfl) ?_)) (ev_sbind (hB hw.2 (t :: rest)) Ev.const)))
  cases ps with
  | nil =>
    simp only [toksNames, rNames, List.map_nil, List.nil_append, peekTok_cons, tk_kw_tt, if_true]
    exact ev_bind_expect Ev.const rfl (ev_bind (ev_expect rfl) Ev.const)
  | cons a as =>
    have hp := params_claim a as 0 (by rw [Nat.zero_add]; exact hw.1.2) (tk (kw .LEFT_BRACE) :: (toksSs body ++ tk (kw .RIGHT_BRACE) :: t :: rest))
    obtain ⟨xs, hx⟩ : ∃ xs, toksNames (a :: as) = tk (idt a) :: xs := by
      cases as with
      | nil => exact ⟨_, toksNames_one a⟩
      | cons b bs => exact ⟨_, toksNames_more a b bs⟩
    rw [hx] at hp ⊢
    simp only [List.cons_append, peekTok_cons, tk_idt_tt, reduceCtorEq, if_false]
    exact ev_bind_expect hp rfl (ev_bind (ev_expect rfl) Ev.const)

def AllS : List Stmt → Prop
  | [] => True
  | s :: ss => SClaims s ∧ AllS ss

def OptS : Option Stmt → Prop
  | none => True
  | some s => SClaims s

/-- `block` and `program`: declarations up to a closing token `c` that no statement starts with; what follows a
    statement inside a block or at top level is never `নাহয়` -/
theorem stmts_claim {P : Nat → List Token → SR (List Stmt)} {c : Token} {r out : List Token} (hc : c.tt ≠ .ELSE)
    (hnil : Ev (fun f => P f (c :: r)) (.ok [] out []))
    (hcons : ∀ {f : Nat} {t : Token} {r' : List Token}, t.tt ≠ .RIGHT_BRACE → t.tt ≠ .EOF →
      P (f + 1) (t :: r') = (declaration f (t :: r')).bind fun s r1 => (P f r1).bind fun ss r2 => .ok (s :: ss) r2 []) :
    ∀ ss : List Stmt, AllS ss → wfSs ss = true → Ev (fun f => P f (toksSs ss ++ c :: r)) (.ok (eraseSs ss) out [])
  | [], _, _ => hnil
  | s :: ss, hall, hw => by
    rw [wfSs, Bool.and_eq_true] at hw
    obtain ⟨x, xs, hx, hnb, hneof, _, _⟩ := toksS_head s hw.1
    obtain ⟨t, r', htr, hne⟩ : ∃ t r', toksSs ss ++ c :: r = t :: r' ∧ t.tt ≠ .ELSE := by
      cases ss with
      | nil => exact ⟨_, _, rfl, hc⟩
      | cons s' ss' =>
        obtain ⟨y, ys, hy, _, _, hne, _⟩ := toksS_head s' (by rw [wfSs, Bool.and_eq_true] at hw; exact hw.2.1)
        exact ⟨y, _, by rw [toksSs_cons, hy]; rfl, hne⟩
    have hd := hall.1.De hw.1 t r' fun _ => hne
    rw [toksSs_cons, List.append_assoc]
    rw [← htr, hx] at hd
    rw [hx]
    exact ev_succ (fun _ => hcons hnb hneof) (ev_sbind hd (ev_sbind (stmts_claim hc hnil hcons ss hall.2 hw.2) Ev.const))

theorem block_claim (ss : List Stmt) (hall : AllS ss) : BlAt ss := fun hw _ =>
  stmts_claim (by decide) (ev_succ (fun _ => block_end rfl) Ev.const) block_item ss hall hw

mutual
theorem sclaims : ∀ s : Stmt, SClaims s
  | .expr e => st_expr e
  | .print e => st_print e
  | .var d => st_varStmt d []
  | .varList (d :: d2 :: ds) => st_varStmt d (d2 :: ds)
  | .varList [] | .varList [_] => ⟨fun _ => nofun, fun hw => by simp [wfS] at hw⟩
  | .block ss => st_block (block_claim ss (sclaimsL ss))
  | .ifS c t e => st_if c (sclaims t).St fun x hx => by
      have := sclaimsO e
      rw [hx] at this
      exact this.St
  | .whileS c b => st_while c (sclaims b).St
  | .forS init c inc b => st_for init c inc (sclaims b).St
  | .breakS l => st_break l
  | .continueS l => st_continue l
  | .returnS l v => st_return l v
  | .funS n ps body => st_fun n ps (block_claim body (sclaimsL body))
theorem sclaimsL : ∀ ss : List Stmt, AllS ss
  | [] => trivial
  | s :: ss => ⟨sclaims s, sclaimsL ss⟩
theorem sclaimsO : ∀ o : Option Stmt, OptS o
  | none => trivial
  | some s => sclaims s
end

/-- **completeness of `Parse`**: every well-formed program is what the parser returns — without any
    diagnostic — for its own rendering followed by EOF, line fields forgotten, for all
    sufficiently large fuel -/
theorem program_complete (p : List Stmt) (hw : wfSs p = true) :
    ∃ f0, ∀ f, f0 ≤ f → program f (toksSs p ++ [tk (kw .EOF)]) = .ok (eraseSs p) [tk (kw .EOF)] [] :=
  stmts_claim (by decide) (ev_succ (fun _ => program_eof rfl) Ev.const) (fun _ h => program_item h) p (sclaimsL p) hw

/-- the statement grammar determines the tree: two well-formed programs with the same rendering
    are the same program up to line fields -/
theorem program_rendering_injective (p q : List Stmt) (hp : wfSs p = true) (hq : wfSs q = true) (h : rStmts p = rStmts q) :
    eraseSs p = eraseSs q := by
  have c1 := program_complete p hp
  rw [toksSs, h] at c1
  exact (SR.ok.inj (Ev.unique c1 (program_complete q hq))).1

end Borno.Parser
