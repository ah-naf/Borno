/-!
# SortedLookup — the keys of a table that is sorted are distinct

`factgen` emits the fingerprint tables sorted by name, so one comparison per adjacent pair (`ascending`)
shows that no key occurs twice; in a table without repeated keys, the entry standing at any position is
what `lookup` answers for its key (`lookup_of_getElem`).
-/
namespace Borno.SortedLookup
variable {β : Type}

def bytes (s : String) : List UInt8 := s.toByteArray.data.toList

/-- adjacent keys strictly ascend in the order of their UTF-8 bytes (Go's `sort.Strings`) -/
def ascending : List (String × β) → Bool
  | p :: q :: t => decide (bytes p.1 < bytes q.1) && ascending (q :: t)
  | _ => true

theorem ascending_pairwise : ∀ {l : List (String × β)}, ascending l = true →
    l.Pairwise fun p q => bytes p.1 < bytes q.1
  | [], _ => .nil
  | [_], _ => List.pairwise_singleton ..
  | p :: q :: t, h => by
    simp only [ascending, Bool.and_eq_true, decide_eq_true_eq] at h
    have ih := ascending_pairwise h.2
    exact List.pairwise_cons.2 ⟨fun r hr => (List.mem_cons.1 hr).elim (· ▸ h.1) fun hr =>
      List.lt_trans h.1 (List.rel_of_pairwise_cons ih hr), ih⟩

theorem nodup_of_ascending {l : List (String × β)} (h : ascending l = true) : (l.map Prod.fst).Nodup :=
  List.pairwise_map.2 ((ascending_pairwise h).imp fun {p q} hlt (e : p.1 = q.1) => List.lt_irrefl _ (e ▸ hlt))

theorem lookup_of_getElem {l : List (String × β)} (hnd : (l.map Prod.fst).Nodup) (i : Nat) {k : String} {v : β}
    (h : l[i]? = some (k, v)) : l.lookup k = some v := by
  obtain ⟨l₁, l₂, rfl⟩ := List.append_of_mem (List.mem_of_getElem? h)
  rw [List.map_append, List.map_cons, List.nodup_append] at hnd
  exact List.lookup_eq_some_iff.2 ⟨l₁, l₂, rfl, fun p hp => bne_iff_ne.2 fun e =>
    hnd.2.2 _ (List.mem_map_of_mem hp) _ List.mem_cons_self e.symm⟩

end Borno.SortedLookup
