import BornoModel.Parser
/-!
# ParserEqs — the defining equations of the parsing functions, stated once

Every parsing function recurses on fuel: it gives up at fuel 0, and at fuel `f + 1` it looks at the
head of the token list and goes one of a few ways.  Here are the combinators on a known head token, the
inversion of their successes, and one equation for each way at `f + 1` that a property or the completeness
proof follows, with hypotheses on the head tokens only; both sides are functions of `f`.
-/
namespace Borno.Parser

theorem peekTok_cons {α : Type} (t : Token) (r : List Token) (k : Token → List Token → PR α) : peekTok (t :: r) k = k t r := rfl

theorem peekTokS_cons {α : Type} (t : Token) (r : List Token) (k : Token → List Token → SR α) : peekTokS (t :: r) k = k t r := rfl

theorem expectTok_cons (tt : TT) (msg : String) (t : Token) (r : List Token) :
    expectTok tt msg (t :: r) = if t.tt = tt then .ok t r else .err (errAt t msg.toList) := rfl

theorem expectTok_hit {tt : TT} {t : Token} (h : t.tt = tt) (msg : String) (r : List Token) : expectTok tt msg (t :: r) = .ok t r := by
  rw [expectTok_cons, if_pos h]

theorem expectTok_miss {tt : TT} {t : Token} (h : t.tt ≠ tt) (msg : String) (r : List Token) :
    expectTok tt msg (t :: r) = .err (errAt t msg.toList) := by
  rw [expectTok_cons, if_neg h]

theorem lenient_hit {tt : TT} {t : Token} (h : t.tt = tt) (msg : String) (r : List Token) : lenient tt msg (t :: r) = .ok () r [] := by
  rw [lenient, peekTokS_cons, if_pos h]

theorem lenient_miss {tt : TT} {t : Token} (h : t.tt ≠ tt) (msg : String) (r : List Token) :
    lenient tt msg (t :: r) = .ok () (t :: r) [errAt t msg.toList] := by
  rw [lenient, peekTokS_cons, if_neg h]

theorem SR.ok_nil_bind {α β : Type} (a : α) (r : List Token) (k : α → List Token → SR β) : (SR.ok a r []).bind k = k a r := by
  rw [SR.bind]
  cases k a r <;> simp only [List.nil_append]

/-! what a successful `bind` / `peek` / `expect` was made of, for proofs that start from a returned result -/

theorem bind_ok {α β : Type} {r : PR α} {k : α → List Token → PR β} {b : β} {rest : List Token}
    (h : r.bind k = .ok b rest) : ∃ a r1, r = .ok a r1 ∧ k a r1 = .ok b rest := by
  cases r with
  | ok a r1 => exact ⟨a, r1, rfl, h⟩
  | err d => cases h
  | abn x => cases h

theorem peek_ok {α : Type} {ts : List Token} {k : Token → List Token → PR α} {b : α} {rest : List Token}
    (h : peekTok ts k = .ok b rest) : ∃ t r, ts = t :: r ∧ k t r = .ok b rest := by
  cases ts with
  | nil => cases h
  | cons t r => exact ⟨t, r, rfl, h⟩

theorem expect_ok {tt : TT} {msg : String} {ts : List Token} {t : Token} {r : List Token}
    (h : expectTok tt msg ts = .ok t r) : ts = t :: r ∧ t.tt = tt := by
  cases ts with
  | nil => cases h
  | cons t' r' =>
    rw [expectTok_cons] at h
    split at h
    · cases h
      exact ⟨rfl, ‹_›⟩
    · cases h

/-- invert `r.bind k = ok …` in `h` -/
macro "ibind " h:ident a:ident r:ident h0:ident : tactic =>
  `(tactic| (have hx := bind_ok $h; clear $h
             refine Exists.elim hx (fun $a hx2 => Exists.elim hx2 (fun $r hx3 => And.elim (fun $h0 $h => ?_) hx3))
             clear hx; try (dsimp only at $h:ident)))

/-- invert `peekTok ts k = ok …` in `h` -/
macro "ipeek " h:ident t:ident r:ident : tactic =>
  `(tactic| (have hx := peek_ok $h; clear $h
             refine Exists.elim hx (fun $t hx2 => Exists.elim hx2 (fun $r hx3 => And.elim (fun heq $h => ?_) hx3))
             clear hx; subst heq; try (dsimp only at $h:ident)))

theorem sbind_ok {α β : Type} {r : SR α} {k : α → List Token → SR β} {b : β} {rest : List Token} {ds : List Diag}
    (h : r.bind k = .ok b rest ds) : ∃ a r1 d1 d2, r = .ok a r1 d1 ∧ k a r1 = .ok b rest d2 ∧ ds = d1 ++ d2 := by
  cases r with
  | ok a r1 d1 =>
    rw [SR.bind] at h
    split at h
    · next hk =>
      cases h
      exact ⟨a, r1, d1, _, rfl, hk, rfl⟩
    · cases h
    · cases h
  | err d => cases h
  | abn x => cases h

theorem toSR_ok {α : Type} {r : PR α} {a : α} {rest : List Token} {ds : List Diag}
    (h : r.toSR = .ok a rest ds) : r = .ok a rest ∧ ds = [] := by
  cases r with
  | ok a' r' => simp only [PR.toSR, SR.ok.injEq] at h; obtain ⟨rfl, rfl, rfl⟩ := h; exact ⟨rfl, rfl⟩
  | err d => cases h
  | abn x => cases h

theorem speek_ok {α : Type} {ts : List Token} {k : Token → List Token → SR α} {b : α} {rest : List Token} {ds : List Diag}
    (h : peekTokS ts k = .ok b rest ds) : ∃ t r, ts = t :: r ∧ k t r = .ok b rest ds := by
  cases ts with
  | nil => cases h
  | cons t r => exact ⟨t, r, rfl, h⟩

theorem sbind_nil {α β : Type} {r : SR α} {k : α → List Token → SR β} {b : β} {rest : List Token}
    (h : r.bind k = .ok b rest []) : ∃ a r1, r = .ok a r1 [] ∧ k a r1 = .ok b rest [] := by
  obtain ⟨a, r1, d1, d2, h1, h2, hd⟩ := sbind_ok h
  have hd1 : d1 = [] := (List.append_eq_nil_iff.mp hd.symm).1
  have hd2 : d2 = [] := (List.append_eq_nil_iff.mp hd.symm).2
  subst hd1; subst hd2
  exact ⟨a, r1, h1, h2⟩

theorem toSR_nil {α : Type} {r : PR α} {a : α} {rest : List Token}
    (h : r.toSR = .ok a rest []) : r = .ok a rest := (toSR_ok h).1

theorem levelOps_forall {P : TT → Prop} (h : ∀ l ∈ Expect.ladder, ∀ tt ∈ l.ops, P tt) {k : Nat} {tt : TT}
    (hk : (levelOps k).contains tt = true) : P tt := by
  unfold levelOps at hk
  split at hk
  · next l hl => exact h l (List.mem_of_getElem? hl) tt (List.contains_iff_mem.mp hk)
  · cases hk

section
variable {f k : Nat} {t t2 : Token} {r : List Token} {l e : Expr}

theorem assignment_succ (f : Nat) (ts : List Token) :
    assignment (f + 1) ts = (binLevel f 0 ts).bind fun e r =>
      peekTok r fun t r1 =>
        if t.tt = .EQUAL then
          (assignment f r1).bind fun v r2 =>
            match e with
            | .ident n l => .ok (.assign n l v t.line) r2
            | .arrayAccess a i _ => .ok (.arrayAssign a i v t.line) r2
            | .propAccess o p _ => .ok (.propAssign o p v t.line) r2
            | _ => .err (errAt t "Invalid assignment target.".toList)
        else .ok e r := by
  rw [assignment]; rfl

theorem binLevel_descend (hk : k < nLevels) {ts : List Token} :
    binLevel (f + 1) k ts = (binLevel f (k + 1) ts).bind fun l r => binLoop f k l r := by
  rw [binLevel, if_pos hk]

theorem binLevel_top (hk : ¬k < nLevels) {ts : List Token} : binLevel (f + 1) k ts = unary f ts := by
  rw [binLevel, if_neg hk]

theorem binLoop_op (h : (levelOps k).contains t.tt = true) :
    binLoop (f + 1) k l (t :: r) = (binLevel f (k + 1) r).bind fun right r2 => binLoop f k (mkBin k l t right) r2 := by
  rw [binLoop, peekTok_cons, if_pos h]

theorem binLoop_stop (h : (levelOps k).contains t.tt = false) : binLoop (f + 1) k l (t :: r) = .ok l (t :: r) := by
  rw [binLoop, peekTok_cons, if_neg (by rw [h]; decide)]

theorem unary_op (h : Expect.unaryOps.contains t.tt = true) :
    unary (f + 1) (t :: r) = (unary f r).bind fun e r2 => .ok (.unary t.tt t.line e) r2 := by
  rw [unary, peekTok_cons, if_pos h]

theorem unary_prim (h : Expect.unaryOps.contains t.tt = false) :
    unary (f + 1) (t :: r) = (primary f (t :: r)).bind fun e r2 => suffix f e r2 := by
  rw [unary, peekTok_cons, if_neg (by rw [h]; decide)]

theorem suffix_call0 (ht : t.tt = .LEFT_PAREN) (ht2 : t2.tt = .RIGHT_PAREN) :
    suffix (f + 1) e (t :: t2 :: r) = suffix f (.call e t2.line []) r := by
  rw [suffix, peekTok_cons, if_pos ht, peekTok_cons, if_pos ht2]

theorem suffix_call (ht : t.tt = .LEFT_PAREN) (ht2 : t2.tt ≠ .RIGHT_PAREN) :
    suffix (f + 1) e (t :: t2 :: r) = (exprList f (t2 :: r)).bind fun args r3 =>
      (expectTok .RIGHT_PAREN "Expect ')' after arguments." r3).bind fun t3 r4 => suffix f (.call e t3.line args) r4 := by
  rw [suffix, peekTok_cons, if_pos ht, peekTok_cons, if_neg ht2]

theorem suffix_index (ht : t.tt = .LEFT_BRACKET) :
    suffix (f + 1) e (t :: r) = (assignment f r).bind fun i r2 =>
      (expectTok .RIGHT_BRACKET "Expect ']' after array index." r2).bind fun t2 r3 => suffix f (.arrayAccess e i t2.line) r3 := by
  rw [suffix, peekTok_cons, if_neg (by rw [ht]; decide), if_pos ht]

theorem suffix_prop (ht : t.tt = .DOT) :
    suffix (f + 1) e (t :: r) = (expectTok .IDENTIFIER "Expect property name after '.'." r).bind fun t2 r2 =>
      suffix f (.propAccess e t2.lexeme t2.line) r2 := by
  rw [suffix, peekTok_cons, if_neg (by rw [ht]; decide), if_neg (by rw [ht]; decide), if_pos ht]

theorem suffix_stop (h1 : t.tt ≠ .LEFT_PAREN) (h2 : t.tt ≠ .LEFT_BRACKET) (h3 : t.tt ≠ .DOT) :
    suffix (f + 1) e (t :: r) = .ok e (t :: r) := by
  rw [suffix, peekTok_cons, if_neg h1, if_neg h2, if_neg h3]

theorem exprList_succ (f : Nat) (ts : List Token) :
    exprList (f + 1) ts = (assignment f ts).bind fun a r =>
      peekTok r fun t r2 =>
        if t.tt = .COMMA then (exprList f r2).bind fun rest r3 => .ok (a :: rest) r3
        else .ok [a] r := by
  rw [exprList]

theorem objProps_end (ht : t.tt = .RIGHT_BRACE ∨ t.tt = .EOF) : objProps (f + 1) (t :: r) = .ok ([], false) (t :: r) := by
  rw [objProps, peekTok_cons, if_pos (by simpa using ht)]

theorem objProps_item (ht : t.tt = .IDENTIFIER) :
    objProps (f + 1) (t :: r) = (expectTok .COLON "Expect ':' after property name." r).bind fun _ r1 =>
      (assignment f r1).bind fun v r2 =>
        peekTok r2 fun t2 r3 =>
          if t2.tt = .COMMA then
            (objProps f r3).bind fun ps r4 =>
              .ok ((t.lexeme, v) :: ps.1, if ps.1.isEmpty then true else ps.2) r4
          else .ok ([(t.lexeme, v)], false) r2 := by
  rw [objProps, peekTok_cons, if_neg (by simp [ht]), expectTok_hit ht, PR.bind]

theorem primary_false (ht : t.tt = .FALSE) : primary (f + 1) (t :: r) = .ok (.literal (.bool false) t.line) r := by
  rw [primary, peekTok_cons]; simp only [ht]

theorem primary_true (ht : t.tt = .TRUE) : primary (f + 1) (t :: r) = .ok (.literal (.bool true) t.line) r := by
  rw [primary, peekTok_cons]; simp only [ht]

theorem primary_nil (ht : t.tt = .NIL) : primary (f + 1) (t :: r) = .ok (.literal .nil t.line) r := by
  rw [primary, peekTok_cons]; simp only [ht]

theorem primary_number (ht : t.tt = .NUMBER) : primary (f + 1) (t :: r) = .ok (.literal (litOf t.lit) t.line) r := by
  rw [primary, peekTok_cons]; simp only [ht]

theorem primary_string (ht : t.tt = .STRING) : primary (f + 1) (t :: r) = .ok (.literal (litOf t.lit) t.line) r := by
  rw [primary, peekTok_cons]; simp only [ht]

theorem primary_ident (ht : t.tt = .IDENTIFIER) : primary (f + 1) (t :: r) = .ok (.ident t.lexeme t.line) r := by
  rw [primary, peekTok_cons]; simp only [ht]

theorem primary_group (ht : t.tt = .LEFT_PAREN) :
    primary (f + 1) (t :: r) = (assignment f r).bind fun e r2 =>
      (expectTok .RIGHT_PAREN "Expect ')' after expression." r2).bind fun t2 r3 => .ok (.grouping e t2.line) r3 := by
  rw [primary, peekTok_cons]; simp only [ht]

theorem primary_arr0 (ht : t.tt = .LEFT_BRACKET) (ht2 : t2.tt = .RIGHT_BRACKET) :
    primary (f + 1) (t :: t2 :: r) = .ok (.arrayLit []) r := by
  rw [primary, peekTok_cons]; simp only [ht, peekTok_cons, if_pos ht2]

theorem primary_arr (ht : t.tt = .LEFT_BRACKET) (ht2 : t2.tt ≠ .RIGHT_BRACKET) :
    primary (f + 1) (t :: t2 :: r) = (exprList f (t2 :: r)).bind fun es r3 =>
      (expectTok .RIGHT_BRACKET "Expect ']' after array elements." r3).bind fun _ r4 => .ok (.arrayLit es) r4 := by
  rw [primary, peekTok_cons]; simp only [ht, peekTok_cons, if_neg ht2]

theorem primary_obj (ht : t.tt = .LEFT_BRACE) :
    primary (f + 1) (t :: r) = (objProps f r).bind fun ps r2 =>
      (expectTok .RIGHT_BRACE "Expect '}' after object literal." r2).bind fun _ r3 => .ok (.objectLit ps.1 ps.2) r3 := by
  rw [primary, peekTok_cons]; simp only [ht]

end

section
variable {f n il : Nat} {t c : Token} {r : List Token}

theorem varDecls_reserved (ht : t.tt = .IDENTIFIER) (hr : isReserved t.lexeme = true) :
    varDecls (f + 1) il (t :: r) = .err (errAt t (reservedMsg t.lexeme "variable")) := by
  rw [varDecls, peekTok_cons, if_neg (not_not_intro ht), if_pos hr]

theorem varDecls_succ (ht : t.tt = .IDENTIFIER) (hr : isReserved t.lexeme = false) :
    varDecls (f + 1) il (t :: r) =
      (peekTok r fun e r1 =>
        if e.tt = .EQUAL then (assignment f r1).bind fun v r2 => .ok (some v) r2
        else .ok none r).bind fun init r2 =>
      peekTok r2 fun p r3 =>
        if !isLiteralInit init && p.line ≠ il then .err (errAt p "Expect ';' before newline.".toList)
        else if p.tt = .COMMA then
          (varDecls f il r3).bind fun rest r4 => .ok (⟨t.lexeme, t.line, init⟩ :: rest) r4
        else .ok [⟨t.lexeme, t.line, init⟩] r2 := by
  rw [varDecls, peekTok_cons, if_neg (not_not_intro ht), if_neg (by rw [hr]; decide)]

theorem varDeclaration_cons (f : Nat) (t0 : Token) (r : List Token) :
    varDeclaration f (t0 :: r) =
      ((varDecls f t0.line (t0 :: r)).bind fun ds r1 =>
        (expectTok .SEMICOLON "Expect ';' after variable declaration." r1).bind fun _ r2 =>
          match ds with
          | [d] => .ok (.var d) r2
          | _ => .ok (.varList ds) r2).toSR := rfl

theorem params_max (hn : n ≥ Expect.maxParams) :
    params (f + 1) n (t :: r) = .err (errAt t "Can't have more than 255 parameters.".toList) := by
  rw [params, peekTok_cons, if_pos hn]

theorem params_more (hn : ¬n ≥ Expect.maxParams) (ht : t.tt = .IDENTIFIER) (hc : c.tt = .COMMA) :
    params (f + 1) n (t :: c :: r) = (params f (n + 1) r).bind fun rest r3 => .ok (t.lexeme :: rest) r3 := by
  rw [params, peekTok_cons, if_neg hn, if_neg (not_not_intro ht), peekTok_cons, if_pos hc]

theorem params_last (hn : ¬n ≥ Expect.maxParams) (ht : t.tt = .IDENTIFIER) (hc : c.tt ≠ .COMMA) :
    params (f + 1) n (t :: c :: r) = .ok [t.lexeme] (c :: r) := by
  rw [params, peekTok_cons, if_neg hn, if_neg (not_not_intro ht), peekTok_cons, if_neg hc]

theorem forInit_none (ht : t.tt = .SEMICOLON) : forInit f (t :: r) = .ok none r [] := by
  rw [forInit, peekTokS_cons, if_pos ht]

theorem forInit_var (ht : t.tt = .VAR) : forInit f (t :: r) = (varDeclaration f r).bind fun s r3 => .ok (some s) r3 [] := by
  rw [forInit, peekTokS_cons, if_neg (by rw [ht]; decide), if_pos ht]

theorem forInit_expr (h1 : t.tt ≠ .SEMICOLON) (h2 : t.tt ≠ .VAR) :
    forInit f (t :: r) = (exprThenSemi f .expr (t :: r)).bind fun s r3 => .ok (some s) r3 [] := by
  rw [forInit, peekTokS_cons, if_neg h1, if_neg h2]

theorem optExprUntil_stop {stop : TT} (ht : t.tt = stop) : optExprUntil stop f (t :: r) = .ok none (t :: r) := by
  rw [optExprUntil, peekTok_cons, if_pos ht]

theorem optExprUntil_expr {stop : TT} (ht : t.tt ≠ stop) :
    optExprUntil stop f (t :: r) = (assignment f (t :: r)).bind fun e r' => .ok (some e) r' := by
  rw [optExprUntil, peekTok_cons, if_neg ht]

theorem declaration_fun (ht : t.tt = .FUN) : declaration (f + 1) (t :: r) = function f r := by
  rw [declaration, peekTokS_cons, if_pos ht]

theorem declaration_var (ht : t.tt = .VAR) : declaration (f + 1) (t :: r) = varDeclaration f r := by
  rw [declaration, peekTokS_cons, if_neg (by rw [ht]; decide), if_pos ht]

theorem declaration_stmt (h1 : t.tt ≠ .FUN) (h2 : t.tt ≠ .VAR) : declaration (f + 1) (t :: r) = statement f (t :: r) := by
  rw [declaration, peekTokS_cons, if_neg h1, if_neg h2]

theorem function_reserved (ht : t.tt = .IDENTIFIER) (hr : isReserved t.lexeme = true) :
    function (f + 1) (t :: r) = .err [errAt t (reservedMsg t.lexeme "function")] := by
  rw [function, peekTokS_cons, if_neg (not_not_intro ht), if_pos hr]

theorem function_succ (ht : t.tt = .IDENTIFIER) (hr : isReserved t.lexeme = false) :
    function (f + 1) (t :: r) =
      ((expectTok .LEFT_PAREN "Expect '(' after function name." r).bind fun _ r1 =>
        (peekTok r1 fun p _ => if p.tt = .RIGHT_PAREN then .ok [] r1 else params f 0 r1).bind fun names r2 =>
          (expectTok .RIGHT_PAREN "Expect ')' after parameters." r2).bind fun _ r3 =>
            (expectTok .LEFT_BRACE "Expect '{' before function body." r3).bind fun _ r4 =>
              .ok names r4).toSR.bind fun names r4 =>
        (block f r4).bind fun body r5 => .ok (.funS t.lexeme names body) r5 [] := by
  rw [function, peekTokS_cons, if_neg (not_not_intro ht), if_neg (by rw [hr]; decide)]

theorem block_end (ht : t.tt = .RIGHT_BRACE) : block (f + 1) (t :: r) = .ok [] r [] := by
  rw [block, peekTokS_cons, if_pos ht]

theorem block_item (h1 : t.tt ≠ .RIGHT_BRACE) (h2 : t.tt ≠ .EOF) :
    block (f + 1) (t :: r) = (declaration f (t :: r)).bind fun s r1 => (block f r1).bind fun ss r2 => .ok (s :: ss) r2 [] := by
  rw [block, peekTokS_cons, if_neg h1, if_neg h2]

theorem statement_if (ht : t.tt = .IF) :
    statement (f + 1) (t :: r) =
      ((expectTok .LEFT_PAREN "Expect '(' after 'if'." r).bind fun _ r1 =>
        (assignment f r1).bind fun c r2 =>
          (expectTok .RIGHT_PAREN "Expect ')' after if condition." r2).bind fun _ r3 => .ok c r3).toSR.bind fun c r3 =>
        (statement f r3).bind fun th r4 =>
          peekTokS r4 fun e r5 =>
            if e.tt = .ELSE then (statement f r5).bind fun el r6 => .ok (.ifS c th (some el)) r6 []
            else .ok (.ifS c th none) r4 [] := by
  rw [statement, peekTokS_cons]; simp only [ht]

theorem statement_while (ht : t.tt = .WHILE) :
    statement (f + 1) (t :: r) =
      ((expectTok .LEFT_PAREN "Expect '(' after 'while'." r).bind fun _ r1 =>
        (assignment f r1).bind fun c r2 =>
          (expectTok .RIGHT_PAREN "Expect ')' after condition." r2).bind fun _ r3 => .ok c r3).toSR.bind fun c r3 =>
        (statement f r3).bind fun b r4 => .ok (.whileS c b) r4 [] := by
  rw [statement, peekTokS_cons]; simp only [ht]

theorem statement_for (ht : t.tt = .FOR) :
    statement (f + 1) (t :: r) =
      (expectTok .LEFT_PAREN "Expect '(' after 'for'." r).toSR.bind fun _ r1 =>
        (forInit f r1).bind fun init r3 =>
          (forHeader f r3).toSR.bind fun ci r7 =>
            (statement f r7).bind fun body r8 =>
              .ok (.forS init ci.1 ci.2 body) r8 [] := by
  rw [statement, peekTokS_cons]; simp only [ht]

theorem statement_print (ht : t.tt = .PRINT) : statement (f + 1) (t :: r) = exprThenSemi f .print r := by
  rw [statement, peekTokS_cons]; simp only [ht]

theorem statement_return (ht : t.tt = .RETURN) :
    statement (f + 1) (t :: r) =
      (peekTok r fun s r1 =>
        if s.tt = .SEMICOLON then .ok (.returnS t.line none) r1
        else
          (assignment f r).bind fun v r2 =>
            (expectTok .SEMICOLON "Expect ';' after return value." r2).bind fun _ r3 =>
              .ok (.returnS t.line (some v)) r3).toSR := by
  rw [statement, peekTokS_cons]; simp only [ht]

theorem statement_break (ht : t.tt = .BREAK) :
    statement (f + 1) (t :: r) =
      ((expectTok .SEMICOLON "Expected ; after break." r).bind fun s r1 => .ok (.breakS s.line) r1).toSR := by
  rw [statement, peekTokS_cons]; simp only [ht]

theorem statement_continue (ht : t.tt = .CONTINUE) :
    statement (f + 1) (t :: r) =
      ((expectTok .SEMICOLON "Expected ; after continue." r).bind fun s r1 => .ok (.continueS s.line) r1).toSR := by
  rw [statement, peekTokS_cons]; simp only [ht]

theorem statement_block (ht : t.tt = .LEFT_BRACE) :
    statement (f + 1) (t :: r) = (block f r).bind fun ss r1 => .ok (.block ss) r1 [] := by
  rw [statement, peekTokS_cons]; simp only [ht]

theorem statement_expr (h : t.tt ∉ [TT.IF, .WHILE, .FOR, .PRINT, .RETURN, .BREAK, .CONTINUE, .LEFT_BRACE]) :
    statement (f + 1) (t :: r) = exprThenSemi f .expr (t :: r) := by
  rw [statement, peekTokS_cons]
  split <;> first | exact absurd (by rw [‹t.tt = _›]; decide) h | rfl

theorem program_eof (ht : t.tt = .EOF) : program (f + 1) (t :: r) = .ok [] (t :: r) [] := by
  rw [program, peekTokS_cons, if_pos ht]

theorem program_item (ht : t.tt ≠ .EOF) :
    program (f + 1) (t :: r) = (declaration f (t :: r)).bind fun s r1 => (program f r1).bind fun ss r2 => .ok (s :: ss) r2 [] := by
  rw [program, peekTokS_cons, if_neg ht]

end

end Borno.Parser
