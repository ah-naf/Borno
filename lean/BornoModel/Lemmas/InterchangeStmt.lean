import BornoModel.Lemmas.InterchangeLoop
/-! # Interchange in statements, blocks and whole programs -/
namespace Borno
variable (P : Platform)

theorem evS_print {e e' : Expr} (h : EvEq P e e') : EvS P (.print e) (.print e') := by
  intro env repl σ; refine ev2_of_succ ?_; simp only [evalS]; refine ev2_guard ?_
  exact ev2_bind (h env repl σ) (evalE_le P) (fun _ _ => Ev2.refl _)

theorem evS_expr {e e' : Expr} (h : EvEq P e e') : EvS P (.expr e) (.expr e') := by
  intro env repl σ; refine ev2_of_succ ?_; simp only [evalS]; refine ev2_guard ?_
  exact ev2_seq (h env repl σ) (evalE_le P) (fun _ _ => Ev2.refl _)

theorem evS_var (n : Name) (l : Nat) {e e' : Expr} (h : EvEq P e e') : EvS P (.var ⟨n, l, some e⟩) (.var ⟨n, l, some e'⟩) := by
  intro env repl σ; refine ev2_of_succ ?_; simp only [evalS]; refine ev2_guard ?_
  exact ev2_seq (ev2_seq (h env repl σ) (evalE_le P) (fun _ _ => Ev2.refl _))
    (fun f => seq_le (evalE_le P f) (fun _ _ => Res.le_refl _)) (fun _ _ => Ev2.refl _)

theorem evS_varNone (n : Name) (l : Nat) : EvS P (.var ⟨n, l, none⟩) (.var ⟨n, l, none⟩) := EvS.refl P _

theorem evS_return (l : Nat) {e e' : Expr} (h : EvEq P e e') : EvS P (.returnS l (some e)) (.returnS l (some e')) := by
  intro env repl σ; refine ev2_of_succ ?_; simp only [evalS]; refine ev2_guard ?_
  exact ev2_seq (h env repl σ) (evalE_le P) (fun _ _ => Ev2.refl _)

inductive OptS : Option Stmt → Option Stmt → Prop
  | none : OptS none none
  | some {s s' : Stmt} : EvS P s s' → OptS (some s) (some s')

theorem OptS.refl (a : Option Stmt) : OptS P a a := by
  cases a with
  | none => exact .none
  | some s => exact .some (EvS.refl P s)

theorem evS_if {c c' : Expr} (hc : EvEq P c c') {t t' : Stmt} (ht : EvS P t t') {e e' : Option Stmt} (he : OptS P e e') :
    EvS P (.ifS c t e) (.ifS c' t' e') := by
  intro env repl σ; refine ev2_of_succ ?_; simp only [evalS]; refine ev2_guard ?_
  refine ev2_seq (hc env repl σ) (evalE_le P) (fun cv σ1 => ev2_ite ?_ ?_)
  · exact ev2_bind (ht env repl σ1) (evalS_le P) (fun _ _ => Ev2.refl _)
  · cases he with
    | none => exact Ev2.refl _
    | some hs => exact ev2_bind (hs env repl σ1) (evalS_le P) (fun _ _ => Ev2.refl _)

theorem evS_while {c c' : Expr} (h : EvEq P c c') {b b' : Stmt} (hb : EvS P b b') : EvS P (.whileS c b) (.whileS c' b') := by
  intro env repl σ; refine ev2_of_succ ?_; simp only [evalS, whileLoop_eq_forLoop]
  exact ev2_guard (forLoop_ev2 P h .none hb env repl σ)

theorem forCond_ev {c c' : Option Expr} (h : OptEv P c c') : EvEq P (forCond c) (forCond c') := by
  cases h with
  | none => exact EvEq.refl P _
  | some h => exact h

theorem evS_for {i i' : Option Stmt} (hi0 : OptS P i i') {c c' : Option Expr} (hc : OptEv P c c') {inc inc' : Option Expr} (hi : OptEv P inc inc')
    {b b' : Stmt} (hb : EvS P b b') : EvS P (.forS i c inc b) (.forS i' c' inc' b') := by
  intro env repl σ; refine ev2_of_succ ?_
  cases hi0 with
  | none => simp only [evalS]; exact ev2_guard (forLoop_ev2 P (forCond_ev P hc) hi hb _ _ _)
  | some hs =>
    simp only [evalS]
    exact ev2_guard (ev2_seq (hs _ _ _) (evalS_le P) (fun _ σ2 => forLoop_ev2 P (forCond_ev P hc) hi hb _ _ σ2))

inductive ListS : List Stmt → List Stmt → Prop
  | nil : ListS [] []
  | cons {s s' : Stmt} {ss ss' : List Stmt} : EvS P s s' → ListS ss ss' → ListS (s :: ss) (s' :: ss')

theorem evalBlock_ev2 {ss ss' : List Stmt} (h : ListS P ss ss') (env : Nat) (repl : Bool) :
    ∀ σ, Ev2 (fun F => evalBlock P F ss env repl σ) (fun F => evalBlock P F ss' env repl σ) := by
  induction h with
  | nil => intro σ; exact Ev2.refl _
  | cons hs _ ih =>
    intro σ
    refine ev2_of_succ ?_
    simp only [evalBlock]
    exact ev2_seq (hs env repl σ) (evalS_le P) (fun _ σ1 => ev2_guard (ih σ1))

theorem evS_block {ss ss' : List Stmt} (h : ListS P ss ss') : EvS P (.block ss) (.block ss') := by
  intro env repl σ; refine ev2_of_succ ?_; simp only [evalS]
  exact ev2_guard (evalBlock_ev2 P h _ _ _)

/-- a declaration list runs as the block of its declarations -/
theorem evS_varList {ds ds' : List VarDecl} (h : ListS P (ds.map .var) (ds'.map .var)) :
    EvS P (.varList ds) (.varList ds') := by
  intro env repl σ; refine ev2_of_succ ?_; simp only [evalS, evalDecls_eq_evalBlock]
  exact ev2_guard (evalBlock_ev2 P h _ _ _)

theorem interpretLoop_ev2 {ss ss' : List Stmt} (h : ListS P ss ss') (env : Nat) (repl : Bool) :
    ∀ σ, Ev2 (fun F => interpretLoop P F ss env repl σ) (fun F => interpretLoop P F ss' env repl σ) := by
  induction h with
  | nil => intro σ; exact Ev2.refl _
  | cons hs _ ih =>
    intro σ
    refine ev2_of_succ ?_
    simp only [interpretLoop]
    refine ev2_bind (hs env repl σ) (evalS_le P) (fun p σ1 => ?_)
    cases p.2 with
    | none => exact ev2_ite (Ev2.refl _) (ih σ1)
    | _ => exact Ev2.refl _

end Borno
