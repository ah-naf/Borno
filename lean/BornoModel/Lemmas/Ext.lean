import BornoModel.Value
import BornoModel.Lemmas.ListAux
/-!
# Ext — what every evaluation step preserves

`Ext σ σ'` ("σ' extends σ") collects the store properties that hold across *any* piece of
evaluation: tables only grow, closures are immutable, arrays never change length, frames keep
their parent and only gain names, no object holds a key twice, the observable fields are the
projections of the event trace, the error flag is monotone, and — the heart of C06 — once the
flag is set nothing observable happens any more except further diagnostics.
-/
namespace Borno

def Ev.isDiag : Ev → Bool
  | .diag _ => true
  | _ => false

/-- `quiet err new`: in the event sequence `new`, started with error flag `err`, every event that
    follows a diagnostic (or that happens while `err` is already set) is itself a diagnostic -/
def quiet : Bool → List Ev → Bool
  | _, [] => true
  | err, e :: es => if e.isDiag then quiet true es else (!err && quiet err es)

theorem quiet_append (err : Bool) (a b : List Ev) (ha : quiet err a = true) (hb : quiet (err || a.any Ev.isDiag) b = true) :
    quiet err (a ++ b) = true := by
  induction a generalizing err with
  | nil => simpa using hb
  | cons e es ih =>
    simp only [List.cons_append, quiet] at ha ⊢
    by_cases he : e.isDiag = true
    · simp only [he, if_true] at ha ⊢
      exact ih true ha (by simpa [he] using hb)
    · simp only [he, Bool.false_eq_true, if_false, Bool.and_eq_true, Bool.not_eq_eq_eq_not, Bool.not_true] at ha ⊢
      refine ⟨ha.1, ih err ha.2 ?_⟩
      have he' : e.isDiag = false := by simpa using he
      simpa [List.any_cons, he'] using hb

theorem quiet_true_all_diag : ∀ (l : List Ev), quiet true l = true → l.all Ev.isDiag = true
  | [], _ => rfl
  | e :: es, h => by
    simp only [quiet] at h
    by_cases he : e.isDiag = true
    · simp only [he, if_true] at h; simp [he, quiet_true_all_diag es h]
    · simp [he] at h

def outOf : List Ev → List Char
  | [] => []
  | .out s :: es => s ++ outOf es
  | _ :: es => outOf es

def diagsOf : List Ev → List Diag
  | [] => []
  | .diag d :: es => d :: diagsOf es
  | _ :: es => diagsOf es

def nativesOf : List Ev → Nat
  | [] => 0
  | .native :: es => nativesOf es + 1
  | _ :: es => nativesOf es

theorem outOf_append (a b : List Ev) : outOf (a ++ b) = outOf a ++ outOf b := by
  induction a with
  | nil => rfl
  | cons e es ih => cases e <;> simp [outOf, ih]

theorem diagsOf_append (a b : List Ev) : diagsOf (a ++ b) = diagsOf a ++ diagsOf b := by
  induction a with
  | nil => rfl
  | cons e es ih => cases e <;> simp [diagsOf, ih]

theorem nativesOf_append (a b : List Ev) : nativesOf (a ++ b) = nativesOf a + nativesOf b := by
  induction a with
  | nil => simp [nativesOf]
  | cons e es ih => cases e <;> simp [nativesOf, ih] <;> omega

/-- the observable fields of a store are the projections of its event trace: stdout is exactly the
    printed texts, the diagnostics are exactly the reported ones, the flag is set iff there is one,
    the call counter counts the built-in entries -/
def LogOk (σ : Store) : Prop :=
  σ.out = outOf σ.trace ∧ σ.diags = diagsOf σ.trace ∧ σ.hadError = !σ.diags.isEmpty ∧ σ.nativeCalls = nativesOf σ.trace

def ObjsOk (σ : Store) : Prop := ∀ (i : Nat) (ps : List (Name × Val)), σ.objs[i]? = some ps → (ps.map (·.1)).Nodup

structure Ext (σ σ' : Store) : Prop where
  envs_len : σ.envs.length ≤ σ'.envs.length
  env_keep : ∀ (i : Nat) (fr : Frame), σ.envs[i]? = some fr → ∃ fr' : Frame, σ'.envs[i]? = some fr' ∧ fr'.parent = fr.parent ∧
      ∀ n, (fr.vars.lookup n).isSome = true → (fr'.vars.lookup n).isSome = true
  arrs_keep : ∀ (i : Nat) (xs : List Val), σ.arrs[i]? = some xs → ∃ ys : List Val, σ'.arrs[i]? = some ys ∧ ys.length = xs.length
  objs_len : σ.objs.length ≤ σ'.objs.length
  funs_keep : ∀ (i : Nat) (cl : Closure), σ.funs[i]? = some cl → σ'.funs[i]? = some cl
  flag_mono : σ.hadError = true → σ'.hadError = true
  trace_ext : ∃ new, σ'.trace = σ.trace ++ new ∧ quiet σ.hadError new = true ∧
      σ'.hadError = (σ.hadError || new.any Ev.isDiag)
  frozen : σ.hadError = true → σ'.out = σ.out ∧ σ'.input = σ.input ∧ σ'.nativeCalls = σ.nativeCalls
  diags_ext : ∃ d, σ'.diags = σ.diags ++ d
  objs_nodup : ObjsOk σ → ObjsOk σ'
  log_ok : LogOk σ → LogOk σ'

namespace Ext

theorem refl (σ : Store) : Ext σ σ :=
  ⟨Nat.le_refl _, fun i fr h => ⟨fr, h, rfl, fun _ h => h⟩, fun i xs h => ⟨xs, h, rfl⟩, Nat.le_refl _, fun _ _ h => h,
   fun h => h, ⟨[], by simp, rfl, by simp⟩, fun _ => ⟨rfl, rfl, rfl⟩, ⟨[], by simp⟩, fun h => h, fun h => h⟩

theorem trans {a b c : Store} (h1 : Ext a b) (h2 : Ext b c) : Ext a c := by
  refine ⟨Nat.le_trans h1.envs_len h2.envs_len, ?_, ?_, Nat.le_trans h1.objs_len h2.objs_len, ?_, ?_, ?_, ?_, ?_,
    fun h => h2.objs_nodup (h1.objs_nodup h), fun h => h2.log_ok (h1.log_ok h)⟩
  · intro i fr h
    obtain ⟨fr1, e1, p1, d1⟩ := h1.env_keep i fr h
    obtain ⟨fr2, e2, p2, d2⟩ := h2.env_keep i fr1 e1
    exact ⟨fr2, e2, p2.trans p1, fun n hn => d2 n (d1 n hn)⟩
  · intro i xs h
    obtain ⟨ys, e1, l1⟩ := h1.arrs_keep i xs h
    obtain ⟨zs, e2, l2⟩ := h2.arrs_keep i ys e1
    exact ⟨zs, e2, l2.trans l1⟩
  · intro i cl h; exact h2.funs_keep i cl (h1.funs_keep i cl h)
  · intro h; exact h2.flag_mono (h1.flag_mono h)
  · obtain ⟨n1, t1, q1, f1⟩ := h1.trace_ext
    obtain ⟨n2, t2, q2, f2⟩ := h2.trace_ext
    refine ⟨n1 ++ n2, by rw [t2, t1, List.append_assoc], ?_, ?_⟩
    · exact quiet_append _ _ _ q1 (by rw [← f1]; exact q2)
    · rw [f2, f1, List.any_append, Bool.or_assoc]
  · intro h
    obtain ⟨o1, i1, c1⟩ := h1.frozen h
    obtain ⟨o2, i2, c2⟩ := h2.frozen (h1.flag_mono h)
    exact ⟨o2.trans o1, i2.trans i1, c2.trans c1⟩
  · obtain ⟨d1, e1⟩ := h1.diags_ext
    obtain ⟨d2, e2⟩ := h2.diags_ext
    exact ⟨d1 ++ d2, by rw [e2, e1, List.append_assoc]⟩

/-! Every store operation of the evaluator rewrites one table, and is then `refl` in every field that does not
    mention that table, or appends one event to the logs: a diagnostic, or anything while the flag is not set. -/

/-- the new fields are variables tied to `σ` by equations, so that `σ.rte`, `σ.print`, `σ.enterNative` and
    `σ.consume` are instances by `rfl` -/
theorem event (σ : Store) (ev : Ev) {o i : List Char} {d : List Diag} {e : Bool} {n : Nat}
    (hq : ev.isDiag = true ∨ σ.hadError = false) (he : e = (σ.hadError || ev.isDiag)) (ho : o = σ.out ++ outOf [ev])
    (hd : d = σ.diags ++ diagsOf [ev]) (hn : n = σ.nativeCalls + nativesOf [ev]) (hi : ev.isDiag = true → i = σ.input) :
    Ext σ { σ with out := o, diags := d, hadError := e, input := i, nativeCalls := n, trace := σ.trace ++ [ev] } := by
  refine { refl σ with
    flag_mono := fun h => by simp [he, h]
    trace_ext := ⟨[ev], rfl, ?_, by simp [he]⟩
    frozen := fun h => ?_
    diags_ext := ⟨_, hd⟩
    log_ok := fun ⟨h1, h2, h3, h4⟩ => ?_ }
  · rcases hq with hq | hq <;> simp [quiet, hq]
  · have hq : ev.isDiag = true := hq.resolve_right (by simp [h])
    cases ev
    case diag => exact ⟨ho.trans (List.append_nil _), hi rfl, hn⟩
    all_goals cases hq
  · refine ⟨by rw [ho, outOf_append, h1], by rw [hd, diagsOf_append, h2], ?_, by rw [hn, nativesOf_append, h4]⟩
    cases ev <;> simp [he, hd, h3, Ev.isDiag, diagsOf]

theorem newEnv (σ : Store) (p : Option Nat) : Ext σ (σ.newEnv p).1 :=
  { refl σ with
    envs_len := by simp [Store.newEnv]
    env_keep := fun _ fr h => ⟨fr, ListAux.getElem?_append_of_some h _, rfl, fun _ h => h⟩ }

theorem newArr (σ : Store) (xs : List Val) : Ext σ (σ.newArr xs).1 :=
  { refl σ with arrs_keep := fun _ ys h => ⟨ys, ListAux.getElem?_append_of_some h _, rfl⟩ }

theorem newFun (σ : Store) (c : Closure) : Ext σ (σ.newFun c).1 :=
  { refl σ with funs_keep := fun _ _ h => ListAux.getElem?_append_of_some h _ }

theorem rte (σ : Store) {msg : List Char} {line : Nat} : Ext σ (σ.rte msg line) :=
  event σ (.diag (.runtime msg line)) (.inl rfl) (Bool.or_true _).symm (List.append_nil _).symm rfl rfl fun _ => rfl

theorem print (σ : Store) (s : List Char) (h : σ.hadError = false) : Ext σ (σ.print s) :=
  event σ (.out s) (.inr h) (Bool.or_false _).symm (by simp [outOf]) (List.append_nil _).symm rfl fun _ => rfl

theorem enterNative (σ : Store) (h : σ.hadError = false) : Ext σ σ.enterNative :=
  event σ .native (.inr h) (Bool.or_false _).symm (List.append_nil _).symm (List.append_nil _).symm rfl fun _ => rfl

theorem consume (σ : Store) (rest : List Char) (h : σ.hadError = false) : Ext σ (σ.consume rest) :=
  event σ .read (.inr h) (Bool.or_false _).symm (List.append_nil _).symm (List.append_nil _).symm rfl nofun

theorem upsert_lookup {α : Type} (k q : Name) (v : α) (ps : List (Name × α)) :
    (upsert k v ps).lookup q = if q = k then some v else ps.lookup q := by
  induction ps with
  | nil => exact ListAux.lookup_cons_ite q k v []
  | cons p ps ih =>
    obtain ⟨k', v'⟩ := p
    rw [upsert, ListAux.lookup_cons_ite]
    by_cases hk : k' = k
    · rw [if_pos hk, ListAux.lookup_cons_ite, hk]
      by_cases hq : q = k
      · simp only [if_pos hq]
      · simp only [if_neg hq]
    · rw [if_neg hk, ListAux.lookup_cons_ite, ih]
      by_cases hq : q = k'
      · simp only [if_pos hq, if_neg (hq ▸ hk : ¬ q = k)]
      · simp only [if_neg hq]

theorem upsert_of_not_mem {α : Type} {k : Name} (v : α) {ps : List (Name × α)} (h : k ∉ ps.map (·.1)) :
    upsert k v ps = ps ++ [(k, v)] := by
  induction ps with
  | nil => rfl
  | cons p ps ih =>
    rw [List.map_cons, List.mem_cons, not_or] at h
    rw [upsert, if_neg (Ne.symm h.1), ih h.2]; rfl

theorem upsert_keys {α : Type} (k : Name) (v : α) (ps : List (Name × α)) :
    (upsert k v ps).map (·.1) = if k ∈ ps.map (·.1) then ps.map (·.1) else ps.map (·.1) ++ [k] := by
  induction ps with
  | nil => simp [upsert]
  | cons p ps ih =>
    obtain ⟨k', v'⟩ := p
    unfold upsert
    by_cases hk : k' = k
    · subst hk
      rw [if_pos rfl, List.map_cons, List.map_cons, if_pos List.mem_cons_self]
    · simp only [if_neg hk, List.map_cons, ih, List.mem_cons, Ne.symm hk, false_or]
      exact apply_ite (List.cons k') ..

theorem upsert_nodup {α : Type} (k : Name) (v : α) (ps : List (Name × α)) (h : (ps.map (·.1)).Nodup) :
    ((upsert k v ps).map (·.1)).Nodup := by
  rw [upsert_keys]
  split
  · exact h
  · rename_i hn
    exact List.nodup_append.mpr ⟨h, by simp, by intro a ha b hb; simp at hb; subst hb; intro e; subst e; exact hn ha⟩

theorem effectiveProps_nodup {α : Type} (ps : List (Name × α)) : ((effectiveProps ps).map (·.1)).Nodup := by
  unfold effectiveProps
  have : ∀ (l acc : List (Name × α)), (acc.map (·.1)).Nodup → ((l.foldl (fun acc p => upsert p.1 p.2 acc) acc).map (·.1)).Nodup := by
    intro l
    induction l with
    | nil => intro acc h; exact h
    | cons p l ih => intro acc h; exact ih _ (upsert_nodup p.1 p.2 acc h)
  exact this ps [] (by simp)

theorem objsOk_getD {σ : Store} (h : ObjsOk σ) (r : Nat) : (((σ.objs[r]?).getD []).map (·.1)).Nodup := by
  cases hr : σ.objs[r]? with
  | none => simp
  | some ps => simpa using h r ps hr

theorem define (σ : Store) (env : Nat) (n : Name) (v : Val) : Ext σ (σ.define env n v) := by
  unfold Store.define
  cases henv : σ.envs[env]? with
  | none => exact refl σ
  | some fr0 =>
    refine { refl σ with envs_len := by simp, env_keep := fun i fr h => ?_ }
    by_cases hi : i = env
    · subst hi
      rw [henv] at h; cases h
      refine ⟨{ fr0 with vars := upsert n v fr0.vars }, by simp [(List.getElem?_eq_some_iff.mp henv).1], rfl, fun m hm => ?_⟩
      rw [upsert_lookup]
      split
      · rfl
      · exact hm
    · exact ⟨fr, (List.getElem?_set_ne (Ne.symm hi)).trans h, rfl, fun _ h => h⟩

theorem setArr (σ : Store) (r k : Nat) (x : Val) :
    Ext σ { σ with arrs := σ.arrs.set r ((σ.arrs[r]?.getD []).set k x) } := by
  refine { refl σ with arrs_keep := fun i xs h => ?_ }
  by_cases hi : i = r
  · subst hi
    exact ⟨xs.set k x, by simp only [List.getElem?_set, (List.getElem?_eq_some_iff.mp h).1, if_true, h, Option.getD_some], by simp⟩
  · exact ⟨xs, (List.getElem?_set_ne (Ne.symm hi)).trans h, rfl⟩

theorem setObj (σ : Store) (r : Nat) (ps : List (Name × Val))
    (hps : ObjsOk σ → (ps.map (·.1)).Nodup) : Ext σ { σ with objs := σ.objs.set r ps } := by
  refine { refl σ with objs_len := by simp, objs_nodup := fun hok i qs h => ?_ }
  rw [List.getElem?_set] at h
  split at h
  · split at h
    · cases h; exact hps hok
    · cases h
  · exact hok i qs h

theorem newObj (σ : Store) (ps : List (Name × Val)) (hps : (ps.map (·.1)).Nodup) : Ext σ (σ.newObj ps).1 := by
  refine { refl σ with objs_len := by simp [Store.newObj], objs_nodup := fun hok i qs h => ?_ }
  rw [show (σ.newObj ps).1.objs = σ.objs ++ [ps] from rfl, List.getElem?_append] at h
  split at h
  · exact hok i qs h
  · cases List.mem_singleton.mp (List.mem_of_getElem? h); exact hps

end Ext
end Borno
