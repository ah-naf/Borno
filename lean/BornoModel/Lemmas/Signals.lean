import BornoModel.Lemmas.EvalEqs
/-!
# Signals — where `break` / `continue` / `return` signals can and cannot come from

* evaluating an *expression* never yields a control signal (calls absorb `return`, built-ins yield none);
* a loop absorbs `break` and `continue`: what leaves a `যতক্ষণ` / `ফর` loop is no signal, or a `return`.
-/
namespace Borno

def SigIn {α : Type} (S : Signal → Prop) (r : Res (α × Signal)) : Prop := ∀ p σ', r = .ok p σ' → S p.2

abbrev NoSig {α : Type} (r : Res (α × Signal)) : Prop := SigIn (· = .none) r

abbrev LoopSig (r : ER) : Prop := SigIn (fun s => s = .none ∨ ∃ l v, s = .ret l v) r

section
variable {α β : Type} {S : Signal → Prop}

theorem sigIn_ok {s : Signal} {a : α} {σ : Store} (h : S s) : SigIn S (.ok (a, s) σ) := by
  intro p σ' e; cases e; exact h

theorem sigIn_abn (x : Abn) : SigIn S (.abn x : Res (α × Signal)) := by
  intro p σ' e; cases e

theorem sigIn_guard {σ : Store} {k : ER} (h0 : S .none) (h : SigIn S k) : SigIn S (guardErr σ k) := by
  unfold guardErr; split
  · exact sigIn_ok h0
  · exact h

theorem sigIn_bind {r : Res β} {k : β → Store → Res (α × Signal)} (hk : ∀ b σ1, r = .ok b σ1 → SigIn S (k b σ1)) :
    SigIn S (r.bind k) := by
  cases r with
  | ok b σ1 => exact hk b σ1 rfl
  | abn x => exact sigIn_abn x

theorem sigIn_bind_noSig {r : Res (β × Signal)} {k : β × Signal → Store → Res (α × Signal)} (hr : NoSig r)
    (hk : ∀ b σ1, SigIn S (k (b, .none) σ1)) : SigIn S (r.bind k) := by
  refine sigIn_bind fun q σ1 hq => ?_
  obtain ⟨b, s⟩ := q
  cases hr _ σ1 hq
  exact hk b σ1

theorem sigIn_seq {r : ER} {k : Val → Store → ER} (hr : NoSig r) (hk : ∀ v σ1, SigIn S (k v σ1)) : SigIn S (ER.seq r k) :=
  sigIn_bind_noSig hr fun v σ1 => by rw [if_neg fun h => h rfl]; exact hk v σ1

end

variable (P : Platform)

theorem noSig_callFn (f id : Nat) (args : List Val) (σ : Store) : NoSig (callFn P f id args σ) := by
  cases f with
  | zero => rw [callFn_zero]; exact sigIn_abn _
  | succ f =>
    rw [callFn]
    split
    · exact sigIn_abn _
    · split
      · exact sigIn_abn _
      · exact sigIn_bind fun _ _ _ => sigIn_ok rfl

theorem noSig_invoke (n : Expect.Native) (vs : List Val) (line : Nat) (σ : Store) : NoSig (invokeNative P n vs line σ) := by
  unfold invokeNative
  split <;> exact sigIn_ok rfl

structure SigP (f : Nat) : Prop where
  e : ∀ e env repl σ, NoSig (evalE P f e env repl σ)
  l : ∀ es env repl σ, NoSig (evalList P f es env repl σ)

theorem SigP.p {f : Nat} (h : SigP P f) (ps : List (Name × Expr)) (env : Nat) (repl : Bool) (σ : Store) :
    NoSig (evalProps P f ps env repl σ) := by
  rw [evalProps_eq_evalList]
  exact sigIn_bind_noSig (h.l _ env repl σ) fun _ _ => sigIn_ok rfl

theorem noSig_evalE {f : Nat} (ih : SigP P f) (e : Expr) (env : Nat) (repl : Bool) (σ : Store) :
    NoSig (evalE P (f + 1) e env repl σ) := by
  cases e
  all_goals (rw [evalE]; refine sigIn_guard rfl ?_)
  case literal v l => exact sigIn_ok rfl
  case grouping e l => exact ih.e e env repl σ
  case ident n l =>
    split <;> exact sigIn_ok rfl
  case unary op l e =>
    refine sigIn_seq (ih.e e env repl σ) fun v σ1 => ?_
    refine sigIn_guard rfl ?_
    split <;> exact sigIn_ok rfl
  case binary l op ln r =>
    refine sigIn_seq (ih.e l env repl σ) fun a σ1 => ?_
    refine sigIn_guard rfl ?_
    refine sigIn_seq (ih.e r env repl σ1) fun b σ2 => ?_
    refine sigIn_guard rfl ?_
    split <;> exact sigIn_ok rfl
  case logical l op r =>
    refine sigIn_seq (ih.e l env repl σ) fun a σ1 => ?_
    by_cases hop : op = .LOGICAL_OR
    · rw [if_pos hop]
      split
      · exact sigIn_ok rfl
      · exact ih.e r env repl σ1
    · rw [if_neg hop]
      split
      · exact sigIn_ok rfl
      · exact ih.e r env repl σ1
  case assign n nl v l =>
    refine sigIn_seq (ih.e v env repl σ) fun x σ1 => ?_
    refine sigIn_guard rfl ?_
    split <;> exact sigIn_ok rfl
  case arrayLit es =>
    refine sigIn_bind_noSig (ih.l es env repl σ) fun vs σ1 => ?_
    rw [if_neg fun h => h rfl]
    exact sigIn_ok rfl
  case objectLit ps tc =>
    refine sigIn_bind_noSig (ih.p P _ env repl σ) fun vs σ1 => ?_
    rw [if_neg fun h => h rfl]
    exact sigIn_ok rfl
  case arrayAccess a i l =>
    refine sigIn_seq (ih.e a env repl σ) fun av σ1 => ?_
    refine sigIn_seq (ih.e i env repl σ1) fun iv σ2 => ?_
    split
    · exact sigIn_ok rfl
    · split
      · exact sigIn_ok rfl
      · exact sigIn_abn _
  case arrayAssign a i v l =>
    refine sigIn_seq (ih.e a env repl σ) fun av σ1 => ?_
    refine sigIn_seq (ih.e i env repl σ1) fun iv σ2 => ?_
    refine sigIn_seq (ih.e v env repl σ2) fun x σ3 => ?_
    split <;> exact sigIn_ok rfl
  case propAccess o q l =>
    refine sigIn_seq (ih.e o env repl σ) fun ov σ1 => ?_
    split
    · split <;> exact sigIn_ok rfl
    · exact sigIn_ok rfl
  case propAssign o q v l =>
    refine sigIn_seq (ih.e o env repl σ) fun ov σ1 => ?_
    split
    · refine sigIn_seq (ih.e v env repl σ1) fun x σ2 => ?_
      exact sigIn_ok rfl
    · exact sigIn_ok rfl
  case call c l args =>
    refine sigIn_seq (ih.e c env repl σ) fun cv σ1 => ?_
    split
    · exact sigIn_ok rfl
    · split
      · exact sigIn_ok rfl
      · refine sigIn_bind_noSig (ih.l args env repl σ1) fun vs σ2 => ?_
        rw [if_neg fun h => h rfl]
        refine sigIn_guard rfl ?_
        split
        · exact noSig_callFn P f _ _ _
        · exact noSig_invoke P _ _ _ _
        · exact sigIn_abn _

theorem noSig_evalList {f : Nat} (ih : SigP P f) (es : List Expr) (env : Nat) (repl : Bool) (σ : Store) :
    NoSig (evalList P (f + 1) es env repl σ) := by
  cases es with
  | nil => rw [evalList]; exact sigIn_ok rfl
  | cons e es =>
    rw [evalList]
    refine sigIn_bind_noSig (ih.e e env repl σ) fun v σ1 => ?_
    rw [if_neg fun h => h rfl]
    refine sigIn_bind_noSig (ih.l es env repl σ1) fun vs σ2 => ?_
    exact sigIn_ok rfl

theorem sigP : ∀ f, SigP P f
  | 0 => ⟨fun _ _ _ _ => evalE_zero P .. ▸ sigIn_abn _, fun _ _ _ _ => evalList_zero P .. ▸ sigIn_abn _⟩
  | f + 1 => ⟨noSig_evalE P (sigP f), noSig_evalList P (sigP f)⟩

theorem evalE_noSig (f : Nat) (e : Expr) (env : Nat) (repl : Bool) (σ : Store) : NoSig (evalE P f e env repl σ) :=
  (sigP P f).e e env repl σ

theorem forLoop_sig : ∀ (f : Nat) (c : Expr) (inc : Option Expr) (b : Stmt) (env : Nat) (repl : Bool) (σ : Store),
    LoopSig (forLoop P f c inc b env repl σ) := by
  intro f
  induction f with
  | zero => intro c inc b env repl σ; rw [forLoop_zero]; exact sigIn_abn _
  | succ f ih =>
    intro c inc b env repl σ
    rw [forLoop]
    refine sigIn_seq (evalE_noSig P f c env repl σ) fun cv σ1 => ?_
    split
    · exact sigIn_ok (.inl rfl)
    · refine sigIn_bind fun q σ2 _ => ?_
      split
      · exact sigIn_ok (.inl rfl)
      · exact sigIn_ok (.inr ⟨_, _, rfl⟩)
      · split
        · exact ih c none b env repl σ2
        · exact sigIn_seq (evalE_noSig P f _ env repl σ2) fun _ σ3 => ih c _ b env repl σ3

theorem whileLoop_sig (f : Nat) (c : Expr) (b : Stmt) (env : Nat) (repl : Bool) (σ : Store) :
    LoopSig (whileLoop P f c b env repl σ) :=
  whileLoop_eq_forLoop P c b env repl f σ ▸ forLoop_sig P f c none b env repl σ

end Borno
