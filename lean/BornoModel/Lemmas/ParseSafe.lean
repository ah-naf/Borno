import BornoModel.Lemmas.ParseGraphStmt
/-!
# ParseSafe — the parser never runs off the end of the token list

The Go parser indexes `tokens[current]` without a bounds check; it is safe because the list ends
in an EOF token that no parsing function ever consumes.  Both theorems read off `spec_program`
(`Lemmas/ParseGraphStmt`), the walk through the bodies of the parsing functions.
-/
namespace Borno.Parser

def ErrNE {α : Type} (r : SR α) : Prop := ∀ ds, r = .err ds → ds ≠ []

/-- **`Parse` never indexes past the end of the token list**: on every token list that contains an
    EOF token, with any fuel, the outcome is a tree, a diagnostic or out-of-fuel — never the panic -/
theorem parse_no_panic (f : Nat) (ts : List Token) (h : HasEOF ts) : program f ts ≠ .abn .panic :=
  (spec_program f ts).not_panic h

/-- when `Parse` gives up it has reported at least one diagnostic -/
theorem program_err_nonempty : ∀ (f : Nat) (ts : List Token), ErrNE (program f ts) := by
  intro f ts ds h
  have s := spec_program f ts
  rw [h] at s
  exact s

end Borno.Parser
