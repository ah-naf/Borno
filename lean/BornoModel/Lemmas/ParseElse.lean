import BornoModel.Grammar
import BornoModel.Lemmas.ParseGraphStmt
/-!
# ParseElse — `নাহয়` attaches to the nearest `যদি`

Whatever statement the parser returns, with or without lenient diagnostics: if it ends in an `if`
without `else` (`openIf`), the next token is not `ELSE` (the inner `if` would have taken it); hence
every `if … else` in the tree has a closed then-branch (`elseOk`).
-/
namespace Borno.Parser
open Grammar

def NoElse (r : List Token) : Prop := ∀ t r', r = t :: r' → t.tt ≠ .ELSE

@[reducible] def ElseAt : (g : FnS) → g.Out → List Token → Prop
  | .function, s, _ => elseOk s = true ∧ openIf s = false
  | .block, ss, _ | .program, ss, _ => elseOkAll ss = true
  | .declaration, s, r | .statement, s, r => elseOk s = true ∧ (openIf s = true → NoElse r)

theorem closedStmt {s : Stmt} {r : List Token} (h1 : elseOk s = true) (h2 : openIf s = false) :
    elseOk s = true ∧ (openIf s = true → NoElse r) :=
  ⟨h1, fun ho => by rw [h2] at ho; cases ho⟩

theorem closed_of_else {s : Stmt} {e : Token} {r : List Token} (h : openIf s = true → NoElse (e :: r)) (he : e.tt = .ELSE) :
    openIf s = false :=
  Bool.eq_false_iff.mpr fun ho => h ho e r rfl he

theorem ParsesS.else_ok {g : FnS} {ts : List Token} {a : g.Out} {r : List Token} {ds : List Diag} (h : ParsesS g ts a r ds) :
    ElseAt g a r := by
  induction h with
  | declFun _ _ ih => exact closedStmt ih.1 ih.2
  | declVar _ hd => cases hd <;> exact closedStmt rfl rfl
  | declStmt _ _ _ ih => exact ih
  | fun0 _ _ _ _ _ _ ih | funN _ _ _ _ _ _ _ _ ih => exact ⟨by simpa [elseOk] using ih, rfl⟩
  | blockEnd _ | blockEof _ | progEnd _ => rfl
  | blockItem _ _ _ _ ihs ihss | progItem _ _ _ ihs ihss => simp [ElseAt, elseOkAll, ihs.1, ihss]
  | ifThen _ _ _ _ _ he ihth =>
    exact ⟨by simp [elseOk, elseOkElse, ihth.1], fun _ t' r' heq => by cases heq; exact he⟩
  | ifElse _ _ _ _ _ he _ ihth ihel =>
    exact ⟨by simp [elseOk, elseOkElse, ihth.1, ihel.1, closed_of_else ihth.2 he], ihel.2⟩
  | whileS _ _ _ _ _ ihb | forS _ _ _ _ _ _ _ _ ihb =>
    exact ⟨by simp [elseOk, ihb.1], ihb.2⟩
  | print _ he | exprS _ he => cases he <;> exact closedStmt rfl rfl
  | return0 _ _ | returnV _ _ _ _ | breakS _ _ | continueS _ _ => exact closedStmt rfl rfl
  | blockS _ _ ih => exact closedStmt (by simpa [elseOk] using ih) rfl

end Borno.Parser
