import BornoModel.Lemmas.Ext
import BornoModel.Lemmas.EvalEqs
/-!
# EvalInv — every evaluation, of any program, with any fuel, extends the store and never panics

One induction on fuel over all evaluator functions.  `Sat σ r` says: if the evaluation returned,
the store it returned extends `σ` (`Ext`); if it ended abnormally, it was not by reaching a
partial host operation.
-/
namespace Borno
open Expect (Native)

def Sat {α : Type} (σ : Store) : Res α → Prop
  | .ok _ σ' => Ext σ σ'
  | .abn a => a ≠ .panic

theorem sat_ok {α : Type} {σ σ' : Store} (a : α) (h : Ext σ σ') : Sat σ (Res.ok a σ') := h

theorem sat_nilOk {σ σ' : Store} (h : Ext σ σ') : Sat σ (nilOk σ') := h

theorem Sat.ext {α : Type} {σ σ' : Store} {r : Res α} {a : α} (h : Sat σ r) (hr : r = .ok a σ') : Ext σ σ' := by
  subst hr; exact h

theorem Sat.ne_panic {α : Type} {σ : Store} {r : Res α} (h : Sat σ r) : r ≠ .abn .panic := by
  rintro rfl; exact h rfl

theorem sat_fuel {α : Type} (σ : Store) : Sat σ (.abn .fuel : Res α) :=
  nofun

theorem sat_mono {α : Type} {σ σ1 : Store} {r : Res α} (h : Ext σ σ1) (hs : Sat σ1 r) : Sat σ r := by
  cases r with
  | ok a σ' => exact h.trans hs
  | abn x => exact hs

theorem sat_bind {α β : Type} {σ : Store} {r : Res α} {k : α → Store → Res β} (h1 : Sat σ r)
    (h2 : ∀ a σ1, r = .ok a σ1 → Sat σ1 (k a σ1)) : Sat σ (r.bind k) := by
  cases r with
  | ok a σ1 => exact sat_mono h1 (h2 a σ1 rfl)
  | abn x => exact h1

theorem sat_seq {σ : Store} {r : ER} {k : Val → Store → ER} (h1 : Sat σ r)
    (h2 : ∀ v σ1, r = .ok (v, .none) σ1 → Sat σ1 (k v σ1)) : Sat σ (ER.seq r k) := by
  unfold ER.seq
  apply sat_bind h1
  intro p σ1 hr
  obtain ⟨v, sig⟩ := p
  by_cases hs : sig = .none
  · subst hs; simp; exact h2 v σ1 hr
  · simp [hs]; exact Ext.refl σ1

theorem sat_guard {σ : Store} {k : ER} (h : σ.hadError = false → Sat σ k) : Sat σ (guardErr σ k) := by
  cases he : σ.hadError with
  | true => rw [guardErr_err he]; exact Ext.refl σ
  | false => rw [guardErr_ok he]; exact h he

theorem math1_ext {f : F64 → F64} {w : String} {args : List Val} {σ σ' : Store} {v : Val}
    (h : math1 f args σ w = .ok (v, σ')) : Ext σ σ' := by
  simp only [math1, Except.map] at h
  repeat' split at h
  all_goals cases h
  exact Ext.refl σ

theorem minmax_ext {b : F64 → F64 → Bool} {w : String} {args : List Val} {σ σ' : Store} {v : Val}
    (h : minmax b w args σ = .ok (v, σ')) : Ext σ σ' := by
  simp only [minmax, Except.map] at h
  repeat' split at h
  all_goals cases h
  exact Ext.refl σ

theorem callPure_ext {P : Platform} {n : Native} {args : List Val} {σ σ' : Store} {v : Val}
    (h : callPure P n args σ = .ok (v, σ')) : Ext σ σ' := by
  cases n <;> simp only [callPure] at h
  case input => cases h
  case clock => cases h; exact Ext.refl σ
  case abs | sqrt | sin | cos | tan | round => exact math1_ext h
  case min | max => exact minmax_ext h
  case delete =>
    unfold natDelete at h
    repeat' split at h
    all_goals cases h
    exact Ext.setObj σ _ _ fun hok => (Ext.objsOk_getD hok _).sublist (List.filter_sublist.map _)
  case append | remove | keys | values =>
    simp only [natAppend, natRemove, natKeys, natValues] at h
    repeat' split at h
    all_goals cases h
    exact Ext.newArr σ _
  all_goals  -- `len`, `pow`
    simp only [natLen, natPow] at h
    repeat' split at h
    all_goals cases h
    exact Ext.refl σ

theorem callInput_ext (args : List Val) (σ : Store) (h0 : σ.hadError = false) :
    Ext σ (callInput args σ).1 := by
  unfold callInput
  split
  · exact Ext.refl σ
  · cases hp : inputPrompt args σ with
    | error m => exact Ext.refl σ
    | ok σ1 =>
      have h1 : Ext σ σ1 ∧ σ1.hadError = false := by
        unfold inputPrompt at hp
        split at hp
        · cases hp; exact ⟨Ext.print σ _ h0, h0⟩
        · cases hp
        · cases hp; exact ⟨Ext.refl σ, h0⟩
      simp only
      cases readLine σ1.input with
      | none => exact h1.1
      | some lr => exact h1.1.trans (Ext.consume σ1 _ h1.2)

theorem callNative_ext (P : Platform) (n : Native) (args : List Val) (σ : Store) (h0 : σ.hadError = false) :
    Ext σ (callNative P n args σ).1 := by
  unfold callNative
  split
  · exact callInput_ext args σ h0
  · split
    · rename_i h; exact callPure_ext h
    · exact Ext.refl σ

theorem sat_invokeNative (P : Platform) (n : Native) (vs : List Val) (line : Nat) (σ : Store) (h0 : σ.hadError = false) :
    Sat σ (invokeNative P n vs line σ) := by
  unfold invokeNative
  have h := (Ext.enterNative σ h0).trans (callNative_ext P n vs _ (by simpa [Store.enterNative] using h0))
  split
  all_goals (rename_i heq; rw [heq] at h)
  · exact h
  · exact h.trans (Ext.rte _)

theorem evalList_length (P : Platform) : ∀ (f : Nat) (es : List Expr) (env : Nat) (repl : Bool) (σ σ' : Store) (vs : List Val),
    evalList P f es env repl σ = .ok (vs, .none) σ' → vs.length = es.length := by
  intro f
  induction f with
  | zero => intro es env repl σ σ' vs h; rw [evalList_zero] at h; cases h
  | succ f ih =>
    intro es env repl σ σ' vs h
    cases es with
    | nil => rw [evalList] at h; cases h; rfl
    | cons e es =>
      rw [evalList] at h
      obtain ⟨⟨v, sig⟩, σ1, _, h⟩ := Res.bind_eq_ok.mp h
      split at h
      · cases h; contradiction
      · obtain ⟨⟨vs', sig'⟩, σ2, hr, h⟩ := Res.bind_eq_ok.mp h
        cases h
        simp [ih es env repl σ1 σ' vs' hr]

theorem evalProps_keys (P : Platform) {f : Nat} {ps : List (Name × Expr)} {env : Nat} {repl : Bool} {σ σ' : Store}
    {vs : List (Name × Val)} (h : evalProps P f ps env repl σ = .ok (vs, .none) σ') :
    vs.map (·.1) = ps.map (·.1) := by
  rw [evalProps_eq_evalList] at h
  obtain ⟨⟨q, sig⟩, σ1, hq, h⟩ := Res.bind_eq_ok.mp h
  cases h
  exact List.map_fst_zip (by simp [evalList_length P f _ env repl σ σ' q hq])

theorem checkIndex_guard {σ : Store} {a iv : Val} {msg : String} {r k : Nat} (h : checkIndex σ a iv msg = .ok (r, k)) :
    ∃ v, (σ.arrs[r]?.getD [])[k]? = some v := by
  obtain ⟨_, _, _, _, _, hk⟩ := checkIndex_eq_ok.mp h
  exact ⟨_, List.getElem?_eq_getElem hk⟩

structure AllSat (P : Platform) (f : Nat) : Prop where
  e : ∀ e env repl σ, Sat σ (evalE P f e env repl σ)
  s : ∀ s env repl σ, Sat σ (evalS P f s env repl σ)
  l : ∀ es env repl σ, Sat σ (evalList P f es env repl σ)
  p : ∀ ps env repl σ, Sat σ (evalProps P f ps env repl σ)
  c : ∀ id args σ cl, σ.funs[id]? = some cl → cl.params.length ≤ args.length → Sat σ (callFn P f id args σ)
  b : ∀ ss env σ, Sat σ (runBody P f ss env σ)
  bl : ∀ ss env repl σ, Sat σ (evalBlock P f ss env repl σ)
  d : ∀ ds env repl σ, Sat σ (evalDecls P f ds env repl σ)
  w : ∀ c b env repl σ, Sat σ (whileLoop P f c b env repl σ)
  fo : ∀ c inc b env repl σ, Sat σ (forLoop P f c inc b env repl σ)

theorem fold_define_ext (fe : Nat) : ∀ (l : List (Name × Val)) (σ : Store),
    Ext σ (l.foldl (fun s (p : Name × Val) => s.define fe p.1 p.2) σ)
  | [], σ => Ext.refl σ
  | p :: l, σ => (Ext.define σ fe p.1 p.2).trans (fold_define_ext fe l _)

section
variable (P : Platform)

/-- object initialisers, declaration lists and `যতক্ষণ` are instances of argument lists, blocks and `ফর` -/
theorem AllSat.of_list_block_for {f : Nat} (e : ∀ e env repl σ, Sat σ (evalE P f e env repl σ)) (s : ∀ s env repl σ, Sat σ (evalS P f s env repl σ))
    (l : ∀ es env repl σ, Sat σ (evalList P f es env repl σ))
    (c : ∀ id args σ cl, σ.funs[id]? = some cl → cl.params.length ≤ args.length → Sat σ (callFn P f id args σ))
    (b : ∀ ss env σ, Sat σ (runBody P f ss env σ)) (bl : ∀ ss env repl σ, Sat σ (evalBlock P f ss env repl σ))
    (fo : ∀ c inc b env repl σ, Sat σ (forLoop P f c inc b env repl σ)) : AllSat P f where
  e := e
  s := s
  l := l
  p ps env repl σ := by rw [evalProps_eq_evalList]; exact sat_bind (l _ env repl σ) fun _ σ1 _ => Ext.refl σ1
  c := c
  b := b
  bl := bl
  d ds env repl σ := by rw [evalDecls_eq_evalBlock]; exact bl _ env repl σ
  w c b env repl σ := by rw [whileLoop_eq_forLoop]; exact fo c none b env repl σ
  fo := fo

variable {f : Nat} (ih : AllSat P f)
include ih

theorem sat_evalE (e : Expr) (env : Nat) (repl : Bool) (σ : Store) : Sat σ (evalE P (f + 1) e env repl σ) := by
  cases e
  all_goals (rw [evalE]; apply sat_guard; intro h0)
  case literal v l => exact Ext.refl σ
  case grouping e' l => exact ih.e e' env repl σ
  case ident n line =>
    split
    · exact Ext.refl σ
    · exact Ext.rte σ
  case unary op line e' =>
    apply sat_seq (ih.e e' env repl σ)
    intro v σ1 _
    apply sat_guard; intro _
    split
    · exact Ext.refl σ1
    · exact Ext.rte σ1
  case binary l op line r =>
    apply sat_seq (ih.e l env repl σ)
    intro a σ1 _
    apply sat_guard; intro _
    apply sat_seq (ih.e r env repl σ1)
    intro b σ2 _
    apply sat_guard; intro _
    split
    · exact Ext.refl σ2
    · exact Ext.rte σ2
  case logical l op r =>
    apply sat_seq (ih.e l env repl σ)
    intro a σ1 _
    by_cases hop : op = .LOGICAL_OR
    · rw [if_pos hop]
      split
      · exact Ext.refl σ1
      · exact ih.e r env repl σ1
    · rw [if_neg hop]
      split
      · exact Ext.refl σ1
      · exact ih.e r env repl σ1
  case assign n nl v line =>
    apply sat_seq (ih.e v env repl σ)
    intro x σ1 _
    apply sat_guard; intro _
    split
    · exact Ext.define σ1 _ _ _
    · exact Ext.rte σ1
  case arrayLit es =>
    apply sat_bind (ih.l es env repl σ)
    intro p σ1 _
    split
    · exact Ext.refl σ1
    · exact Ext.newArr σ1 _
  case objectLit ps tc =>
    apply sat_bind (ih.p _ env repl σ)
    intro p σ1 hp
    split
    · exact Ext.refl σ1
    · rename_i hsig
      obtain ⟨vs, sig⟩ := p
      obtain rfl : sig = .none := Decidable.not_not.mp hsig
      refine Ext.newObj σ1 _ ?_
      rw [evalProps_keys P hp]
      exact Ext.effectiveProps_nodup _
  case arrayAccess a i line =>
    apply sat_seq (ih.e a env repl σ)
    intro av σ1 _
    apply sat_seq (ih.e i env repl σ1)
    intro iv σ2 _
    split
    · exact Ext.rte σ2
    · rename_i hc
      obtain ⟨v, hv⟩ := checkIndex_guard hc
      simp only [hv]
      exact Ext.refl σ2
  case arrayAssign a i v line =>
    apply sat_seq (ih.e a env repl σ)
    intro av σ1 _
    apply sat_seq (ih.e i env repl σ1)
    intro iv σ2 _
    apply sat_seq (ih.e v env repl σ2)
    intro x σ3 _
    split
    · exact Ext.rte σ3
    · exact Ext.setArr σ3 _ _ _
  case propAccess o p line =>
    apply sat_seq (ih.e o env repl σ)
    intro ov σ1 _
    split
    · split
      · exact Ext.refl σ1
      · exact Ext.rte σ1
    · exact Ext.rte σ1
  case propAssign o p v line =>
    apply sat_seq (ih.e o env repl σ)
    intro ov σ1 _
    split
    · apply sat_seq (ih.e v env repl σ1)
      intro x σ2 _
      exact Ext.setObj σ2 _ _ fun hok => Ext.upsert_nodup _ _ _ (Ext.objsOk_getD hok _)
    · exact Ext.rte σ1
  case call c line args =>
    apply sat_seq (ih.e c env repl σ)
    intro cv σ1 _
    split
    · exact Ext.rte σ1
    · rename_i k har
      split
      · exact Ext.rte σ1
      · rename_i hk
        apply sat_bind (ih.l args env repl σ1)
        intro p σ2 hev
        obtain ⟨vs, sig⟩ := p
        split
        · exact Ext.refl σ2
        · rename_i hsig
          obtain rfl : sig = .none := Decidable.not_not.mp hsig
          apply sat_guard; intro h2
          -- the callee was found callable in `σ1`; it still is in `σ2`, and has as many arguments as parameters
          rcases arityOf_eq_some har with ⟨id, cl, rfl, hcl, rfl⟩ | ⟨n, rfl, rfl⟩
          · refine ih.c id vs σ2 cl (((ih.l args env repl σ1).ext hev).funs_keep id cl hcl) ?_
            have := evalList_length P f args env repl σ1 σ2 vs hev
            simp at hk
            omega
          · exact sat_invokeNative P n vs line σ2 h2

theorem sat_evalS (s : Stmt) (env : Nat) (repl : Bool) (σ : Store) : Sat σ (evalS P (f + 1) s env repl σ) := by
  cases s
  -- `ফর` and `ফেরত` match on an optional part besides the constructor: split it before `evalS` is rewritten
  -- (`ধরি` matches on `d.init` inside its body instead: `split` there)
  case forS init c inc b =>
    cases init
    all_goals (rw [evalS]; apply sat_guard; intro h0; apply sat_mono (Ext.newEnv σ (some env)))
    · exact ih.fo _ inc b _ repl _
    · apply sat_seq (ih.s _ _ repl _)
      intro v σ2 _
      exact ih.fo _ inc b _ repl σ2
  case returnS line v =>
    cases v
    all_goals (rw [evalS]; apply sat_guard; intro h0)
    · exact Ext.refl σ
    · apply sat_seq (ih.e _ env repl σ)
      intro x σ1 _; exact Ext.refl σ1
  all_goals (rw [evalS]; apply sat_guard; intro h0)
  case expr e =>
    apply sat_seq (ih.e e env repl σ)
    intro v σ1 _
    split
    · rename_i hc
      split
      · exact Ext.print σ1 _ (by simp at hc; exact hc.2)
      · exact nofun
    · exact Ext.refl σ1
  case print e =>
    apply sat_bind (ih.e e env repl σ)
    intro p σ1 _
    split
    · exact Ext.refl σ1
    · apply sat_guard; intro h1
      split
      · exact Ext.print σ1 _ h1
      · exact nofun
  case var d =>
    apply sat_seq
    · split
      · exact Ext.refl σ
      · apply sat_seq (ih.e _ env repl σ)
        intro v σ1 _
        apply sat_guard; intro _
        exact Ext.refl σ1
    · intro v σ1 _
      apply sat_guard; intro _
      split
      · exact Ext.define σ1 _ _ _
      · exact Ext.rte σ1
  case varList ds => exact ih.d ds env repl σ
  case block ss => exact sat_mono (Ext.newEnv σ _) (ih.bl ss _ repl _)
  case ifS c t e =>
    apply sat_seq (ih.e c env repl σ)
    intro cv σ1 _
    split
    · apply sat_bind (ih.s t env repl σ1)
      intro p σ2 _; exact Ext.refl σ2
    · split
      · apply sat_bind (ih.s _ env repl σ1)
        intro p σ2 _; exact Ext.refl σ2
      · exact Ext.refl σ1
  case whileS c b => exact ih.w c b env repl σ
  case breakS line => exact Ext.refl σ
  case continueS line => exact Ext.refl σ
  case funS name ps body => exact ((Ext.newEnv σ _).trans (Ext.newFun _ _)).trans (Ext.define _ _ _ _)

theorem sat_evalList (es : List Expr) (env : Nat) (repl : Bool) (σ : Store) : Sat σ (evalList P (f + 1) es env repl σ) := by
  cases es with
  | nil => rw [evalList]; exact Ext.refl σ
  | cons e es =>
    rw [evalList]
    apply sat_bind (ih.e e env repl σ)
    intro p σ1 _
    split
    · exact Ext.refl σ1
    · apply sat_bind (ih.l es env repl σ1)
      intro q σ2 _; exact Ext.refl σ2

theorem sat_callFn (id : Nat) (args : List Val) (σ : Store) (cl : Closure) (hcl : σ.funs[id]? = some cl)
    (hlen : cl.params.length ≤ args.length) : Sat σ (callFn P (f + 1) id args σ) := by
  rw [callFn_succ P f hcl hlen]
  apply sat_mono (((Ext.newEnv σ (some cl.env)).trans (Ext.define _ _ _ _)).trans (fold_define_ext _ _ _))
  apply sat_bind (ih.b cl.body _ _)
  intro v σ4 _; exact Ext.refl σ4

theorem sat_runBody (ss : List Stmt) (env : Nat) (σ : Store) : Sat σ (runBody P (f + 1) ss env σ) := by
  cases ss with
  | nil => rw [runBody]; exact Ext.refl σ
  | cons s ss =>
    rw [runBody]
    apply sat_bind (ih.s s env false σ)
    intro p σ1 _
    split
    · exact Ext.refl σ1
    · exact ih.b ss env σ1
    · exact Ext.refl σ1

theorem sat_evalBlock (ss : List Stmt) (env : Nat) (repl : Bool) (σ : Store) : Sat σ (evalBlock P (f + 1) ss env repl σ) := by
  cases ss with
  | nil => rw [evalBlock]; exact Ext.refl σ
  | cons s ss =>
    rw [evalBlock]
    apply sat_seq (ih.s s env repl σ)
    intro v σ1 _
    exact sat_guard fun _ => ih.bl ss env repl σ1

theorem sat_forLoop (c : Expr) (inc : Option Expr) (b : Stmt) (env : Nat) (repl : Bool) (σ : Store) :
    Sat σ (forLoop P (f + 1) c inc b env repl σ) := by
  rw [forLoop]
  apply sat_seq (ih.e c env repl σ)
  intro cv σ1 _
  split
  · exact Ext.refl σ1
  · apply sat_bind (ih.s b env repl σ1)
    intro p σ2 _
    split
    · exact Ext.refl σ2
    · exact Ext.refl σ2
    · split
      · exact ih.fo c _ b env repl σ2
      · apply sat_seq (ih.e _ env repl σ2)
        intro v σ3 _
        exact ih.fo c _ b env repl σ3

end

theorem allSat (P : Platform) : ∀ f, AllSat P f
  | 0 => .of_list_block_for P (fun _ _ _ σ => evalE_zero P .. ▸ sat_fuel σ) (fun _ _ _ σ => evalS_zero P .. ▸ sat_fuel σ)
      (fun _ _ _ σ => evalList_zero P .. ▸ sat_fuel σ) (fun _ _ σ _ _ _ => callFn_zero P .. ▸ sat_fuel σ)
      (fun _ _ σ => runBody_zero P .. ▸ sat_fuel σ) (fun _ _ _ σ => evalBlock_zero P .. ▸ sat_fuel σ)
      (fun _ _ _ _ _ σ => forLoop_zero P .. ▸ sat_fuel σ)
  | f + 1 =>
    have ih := allSat P f
    .of_list_block_for P (sat_evalE P ih) (sat_evalS P ih) (sat_evalList P ih) (sat_callFn P ih) (sat_runBody P ih) (sat_evalBlock P ih)
      (sat_forLoop P ih)

theorem sat_interpretLoop (P : Platform) : ∀ (f : Nat) (ss : List Stmt) (env : Nat) (repl : Bool) (σ : Store),
    Sat σ (interpretLoop P f ss env repl σ) := by
  intro f
  induction f with
  | zero => intro ss env repl σ; rw [interpretLoop_zero]; exact sat_fuel σ
  | succ f ih =>
    intro ss env repl σ
    cases ss with
    | nil => rw [interpretLoop]; exact Ext.refl σ
    | cons s ss =>
      rw [interpretLoop]
      apply sat_bind ((allSat P f).s s env repl σ)
      intro p σ1 _
      split
      · exact Ext.rte σ1
      · exact Ext.rte σ1
      · exact Ext.rte σ1
      · split
        · exact Ext.refl σ1
        · exact ih ss env repl σ1

theorem evalE_ext (P : Platform) {f : Nat} {e : Expr} {env : Nat} {repl : Bool} {σ σ' : Store} {r : Val × Signal}
    (h : evalE P f e env repl σ = .ok r σ') : Ext σ σ' :=
  ((allSat P f).e e env repl σ).ext h

theorem evalS_ext (P : Platform) {f : Nat} {s : Stmt} {env : Nat} {repl : Bool} {σ σ' : Store} {r : Val × Signal}
    (h : evalS P f s env repl σ = .ok r σ') : Ext σ σ' :=
  ((allSat P f).s s env repl σ).ext h

theorem interpret_ext (P : Platform) {fuel : Nat} {prog : List Stmt} {repl : Bool} {input : List Char} {σ' : Store}
    (h : interpret P fuel prog repl input = .ok () σ') : Ext (initStore input) σ' :=
  (sat_interpretLoop P fuel prog 1 repl (initStore input)).ext h

end Borno
