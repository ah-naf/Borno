import BornoModel.Lexer
import BornoModel.Lemmas.ListAux
/-!
# LexStep — one scanning step, scanner by scanner

What each scanner does on each form of input, and which scanner `scanToken` hands a text to (`Lead`).
The theorems about every step (`StepOk`, swapping the unread text, shifting the line) go through these; a
theorem about one scanner on one form of input unfolds that scanner, and `scanNumber` and `scanWord` have
no case lemma here (`C10.scanNumber_cases` is the number scanner's).
-/
namespace Borno.Lexer
open ListAux

def headSat (p : Char → Bool) : List Char → Bool
  | [] => true
  | y :: _ => p y

theorem takeWhile_stop {p : Char → Bool} (l : List Char) {Y : List Char} (h : headSat (fun y => !p y) Y = true) :
    (l.takeWhile p ++ Y).takeWhile p = l.takeWhile p ∧ (l.takeWhile p ++ Y).dropWhile p = Y := by
  rw [List.takeWhile_append_of_pos (takeWhile_forall p l), List.dropWhile_append_of_pos (takeWhile_forall p l)]
  cases Y with
  | nil => simp
  | cons y ys =>
    have hy : ¬ p y = true := by simpa [headSat] using h
    simp [List.takeWhile_cons_of_neg hy, List.dropWhile_cons_of_neg hy]

theorem headSat_dropWhile (p : Char → Bool) (l : List Char) : headSat (fun y => !p y) (l.dropWhile p) = true := by
  cases h : l.dropWhile p with
  | nil => rfl
  | cons q rest => simp [headSat, dropWhile_head p l q rest h]

@[simp] theorem countNl_nil : countNl [] = 0 := rfl

theorem countNl_append (a b : List Char) : countNl (a ++ b) = countNl a + countNl b := by
  simp [countNl]

theorem countNl_cons (c : Char) (l : List Char) : countNl (c :: l) = (if c = '\n' then 1 else 0) + countNl l := by
  rw [← List.singleton_append, countNl_append]
  by_cases h : c = '\n' <;> simp [countNl, isNl, h]

theorem countNl_zero {l : List Char} (h : ∀ c ∈ l, c ≠ '\n') : countNl l = 0 := by
  simpa [countNl, isNl] using h

/-- a type `plainTok` is called with: not the end marker, and no literal goes with it -/
abbrev PlainTT (tt : TT) : Prop := tt ≠ .EOF ∧ tt ≠ .NUMBER ∧ tt ≠ .STRING

theorem tables :
    (∀ p ∈ Expect.singleOps, PlainTT p.2 ∧ p.1 ≠ '\n') ∧
    (∀ e ∈ Expect.twoOps, PlainTT e.2.2 ∧ e.1 ≠ '\n' ∧ (∀ p ∈ e.2.1, PlainTT p.2) ∧
      ∀ b ∈ [' ', '\t', '\r', '\n', '/'], e.2.1.lookup b = none) ∧
    (∀ p ∈ Expect.keywords, PlainTT p.2) := by decide +kernel

theorem keyword_plain (w : List Char) : PlainTT ((Expect.keywords.lookup w).getD .IDENTIFIER) := by
  cases h : Expect.keywords.lookup w with
  | none => decide
  | some tt => exact tables.2.2 _ (lookup_mem h)

theorem isDigit_not_nl : isDigit '\n' = false := by decide

theorem isDigit_ne_nl {x : Char} (h : isDigit x = true) : x ≠ '\n' := by
  rintro rfl; rw [isDigit_not_nl] at h; cases h

theorem dot_not_digit : isDigit '.' = false := by decide

theorem blockComment_close (r : List Char) : blockComment ('*' :: '/' :: r) = (['*', '/'], some r) := by
  simp [blockComment]

theorem blockComment_cons {c : Char} {r : List Char} (h : ¬ (c = '*' ∧ r.head? = some '/')) :
    blockComment (c :: r) = (c :: (blockComment r).1, (blockComment r).2) := by
  cases r with
  | nil => by_cases hc : c = '*' <;> simp [blockComment, hc]
  | cons d r' =>
    rw [blockComment]
    by_cases hc : c = '*'
    · have hd : d ≠ '/' := fun e => h ⟨hc, by simp [e]⟩
      simp only [hc, hd, if_true, if_false]
    · simp only [hc, if_false]

theorem blockComment_head (c : Char) (r : List Char) : ∃ u, (blockComment (c :: r)).1 = c :: u := by
  by_cases h : c = '*' ∧ r.head? = some '/'
  · obtain ⟨rfl, hr⟩ := h
    obtain ⟨r', rfl⟩ := List.head?_eq_some_iff.mp hr
    exact ⟨_, rfl⟩
  · exact ⟨_, by rw [blockComment_cons h]⟩

theorem blockComment_swap : ∀ (r : List Char) {u rest : List Char} (Y : List Char), blockComment r = (u, some rest) →
    blockComment (u ++ Y) = (u, some Y)
  | [], _, _, _, h => by simp [blockComment] at h
  | c :: r, u, rest, Y, h => by
    by_cases hc : c = '*' ∧ r.head? = some '/'
    · obtain ⟨rfl, hr⟩ := hc
      obtain ⟨r', rfl⟩ := List.head?_eq_some_iff.mp hr
      cases h
      exact blockComment_close Y
    · rw [blockComment_cons hc] at h
      obtain ⟨rfl, h2⟩ := Prod.mk.inj h
      have ih := blockComment_swap r Y (Prod.ext rfl h2)
      cases r with
      | nil => cases h2
      | cons d r2 =>
        obtain ⟨u', hu⟩ := blockComment_head d r2
        simp only [hu] at ih ⊢
        rw [List.cons_append, blockComment_cons (r := d :: u' ++ Y) hc, ih]

theorem scanTwo_none {alts : List (Char × TT)} {r : List Char} (h : headSat (fun y => (alts.lookup y).isNone) r = true)
    (c : Char) (dflt : TT) (line : Nat) : scanTwo c alts dflt r line = plainTok dflt [c] r line := by
  cases r with
  | nil => rfl
  | cons d r' => rw [scanTwo, Option.isNone_iff_eq_none.mp h]

theorem scanTwo_cases (c : Char) (alts : List (Char × TT)) (dflt : TT) (r : List Char) :
    (headSat (fun y => (alts.lookup y).isNone) r = true ∧ ∀ line, scanTwo c alts dflt r line = plainTok dflt [c] r line) ∨
    (∃ d r' tt, r = d :: r' ∧ alts.lookup d = some tt ∧ ∀ line, scanTwo c alts dflt r line = plainTok tt [c, d] r' line) := by
  cases h : headSat (fun y => (alts.lookup y).isNone) r with
  | true => exact .inl ⟨rfl, scanTwo_none h c dflt⟩
  | false =>
    cases r with
    | nil => cases h
    | cons d r' =>
      cases hl : alts.lookup d with
      | none => simp [headSat, hl] at h
      | some tt => exact .inr ⟨d, r', tt, rfl, hl, fun _ => by rw [scanTwo, hl]⟩

theorem scanSlash_tok {r : List Char} (h : headSat (fun y => y != '/' && y != '*') r = true) (line : Nat) :
    scanSlash r line = plainTok .SLASH ['/'] r line := by
  cases r with
  | nil => rfl
  | cons d r' =>
    have : d ≠ '/' ∧ d ≠ '*' := by simpa [headSat] using h
    rw [scanSlash, if_neg this.1, if_neg this.2]

theorem scanSlash_cases (r : List Char) :
    (headSat (fun y => y != '/' && y != '*') r = true ∧ ∀ line, scanSlash r line = plainTok .SLASH ['/'] r line) ∨
    (∃ r', r = '/' :: r' ∧
      ∀ line, scanSlash r line = ⟨none, none, '/' :: '/' :: r'.takeWhile notNl, r'.dropWhile notNl, line⟩) ∨
    (∃ r' u rest, r = '*' :: r' ∧ blockComment r' = (u, some rest) ∧
      ∀ line, scanSlash r line = ⟨none, none, '/' :: '*' :: u, rest, line + countNl u⟩) ∨
    (∃ r' u, r = '*' :: r' ∧ blockComment r' = (u, none) ∧
      ∀ line, scanSlash r line =
        ⟨none, some (.static (line + countNl u) [] unterminatedComment), '/' :: '*' :: u, [], line + countNl u⟩) := by
  cases h : headSat (fun y => y != '/' && y != '*') r with
  | true => exact .inl ⟨rfl, scanSlash_tok h⟩
  | false =>
    cases r with
    | nil => cases h
    | cons d r' =>
      by_cases h1 : d = '/'
      · exact .inr (.inl ⟨r', by rw [h1], fun _ => by simp [scanSlash, h1]⟩)
      · have h2 : d = '*' := by simpa [headSat, h1] using h
        subst h2
        cases hb : blockComment r' with
        | mk u k =>
          cases k with
          | some rest => exact .inr (.inr (.inl ⟨r', u, rest, rfl, hb, fun _ => by simp [scanSlash, hb]⟩))
          | none => exact .inr (.inr (.inr ⟨r', u, rfl, hb, fun _ => by simp [scanSlash, hb]⟩))

theorem scanString_cases (r : List Char) :
    (r.dropWhile notQuote = [] ∧ ∀ line, scanString r line =
      some ⟨none, some (.static (line + countNl r) [] unterminatedString), '"' :: r, [], line + countNl r⟩) ∨
    (∃ rest, r.dropWhile notQuote = '"' :: rest ∧ ∀ line, scanString r line =
      some ⟨some ⟨.STRING, '"' :: r.takeWhile notQuote ++ ['"'], .str (r.takeWhile notQuote), line + countNl (r.takeWhile notQuote)⟩,
        none, '"' :: r.takeWhile notQuote ++ ['"'], rest, line + countNl (r.takeWhile notQuote)⟩) := by
  cases h : r.dropWhile notQuote with
  | nil =>
    have hr : r.takeWhile notQuote = r := by simpa [h] using List.takeWhile_append_dropWhile (p := notQuote) (l := r)
    exact .inl ⟨rfl, fun _ => by simp [scanString, h, hr]⟩
  | cons q rest =>
    have hq : q = '"' := by simpa [notQuote] using dropWhile_head notQuote r q rest h
    subst hq
    exact .inr ⟨rest, rfl, fun _ => by simp [scanString, h]⟩

/-- `Y` does not start a fraction: not `.` followed by a digit -/
def noFrac : List Char → Bool
  | '.' :: d :: _ => !isDigit d
  | _ => true

theorem numFrac_cases (l : List Char) :
    (noFrac l = true ∧ numFrac l = ([], l)) ∨
    (∃ d r', l = '.' :: d :: r' ∧ isDigit d = true ∧
      numFrac l = ('.' :: d :: r'.takeWhile isDigit, r'.dropWhile isDigit)) := by
  match l with
  | [] => exact .inl ⟨rfl, rfl⟩
  | [p] => exact .inl ⟨by simp [noFrac], by simp [numFrac]⟩
  | p :: d :: r' =>
    by_cases hp : p = '.'
    · subst hp
      cases hd : isDigit d with
      | true => exact .inr ⟨d, r', rfl, hd, by simp [numFrac, hd]⟩
      | false => exact .inl ⟨by simp [noFrac, hd], by simp [numFrac, hd]⟩
    · exact .inl ⟨by simp [noFrac, hp], by simp [numFrac, hp]⟩

/-- when a step that began with `c` and consumed `used` would end in the same place on unread text `Y` -/
def Compat (lm : Char → Bool) (c : Char) (used Y : List Char) : Prop :=
  match Expect.singleOps.lookup c with
  | some _ => True
  | none =>
  match Expect.twoOps.lookup c with
  | some (alts, _) => used.length = 2 ∨ headSat (fun y => (alts.lookup y).isNone) Y = true
  | none =>
  if c = '/' then
    (match used with
     | ['/'] => headSat (fun y => y != '/' && y != '*') Y = true
     | '/' :: '/' :: _ => headSat (fun y => y == '\n') Y = true
     | _ => True)
  else if Expect.blanks.contains c then True
  else if c = '\n' then True
  else if c = '"' then True
  else if isDigit c then
    headSat (fun y => !isDigit y) Y = true ∧ (('.' ∈ used) ∨ noFrac Y = true)
  else if isAlpha lm c then headSat (fun y => !isAlphaNum lm y) Y = true
  else True

/-- The class of a first character `c`: `scanToken` and `Compat` test for the classes in this order, and
    the first that applies decides what `scanToken` does with a text `c :: r` and what `Compat` asks of
    the unread text. -/
inductive Lead (lm : Char → Bool) (c : Char) : Prop
  | single (tt : TT) (h : Expect.singleOps.lookup c = some tt)
      (scan : ∀ r line, scanToken lm (c :: r) line = some (plainTok tt [c] r line))
      (compat : ∀ used Y, Compat lm c used Y)
  | two (alts : List (Char × TT)) (dflt : TT) (h : Expect.twoOps.lookup c = some (alts, dflt))
      (scan : ∀ r line, scanToken lm (c :: r) line = some (scanTwo c alts dflt r line))
      (compat : ∀ used Y, Compat lm c used Y ↔
        (used.length = 2 ∨ headSat (fun y => (alts.lookup y).isNone) Y = true))
  | slash (h : c = '/')
      (scan : ∀ r line, scanToken lm (c :: r) line = some (scanSlash r line))
      (compat : ∀ used Y, Compat lm c used Y ↔
        (match used with
         | ['/'] => headSat (fun y => y != '/' && y != '*') Y = true
         | '/' :: '/' :: _ => headSat (fun y => y == '\n') Y = true
         | _ => True))
  | blank (h : Expect.blanks.contains c = true)
      (scan : ∀ r line, scanToken lm (c :: r) line = some ⟨none, none, [c], r, line⟩)
      (compat : ∀ used Y, Compat lm c used Y)
  | newline (h : c = '\n')
      (scan : ∀ r line, scanToken lm (c :: r) line = some ⟨none, none, [c], r, line + 1⟩)
      (compat : ∀ used Y, Compat lm c used Y)
  | quote (h : c = '"')
      (scan : ∀ r line, scanToken lm (c :: r) line = scanString r line)
      (compat : ∀ used Y, Compat lm c used Y)
  | digit (h : isDigit c = true)
      (scan : ∀ r line, scanToken lm (c :: r) line = some (scanNumber c r line))
      (compat : ∀ used Y, Compat lm c used Y ↔
        (headSat (fun y => !isDigit y) Y = true ∧ ('.' ∈ used ∨ noFrac Y = true)))
  | word (h : isAlpha lm c = true) (hnl : c ≠ '\n')
      (scan : ∀ r line, scanToken lm (c :: r) line = some (scanWord lm c r line))
      (compat : ∀ used Y, Compat lm c used Y ↔ headSat (fun y => !isAlphaNum lm y) Y = true)
  | other (hnl : c ≠ '\n')
      (scan : ∀ r line, scanToken lm (c :: r) line = some ⟨none, some (.static line [] unexpectedChar), [c], r, line⟩)
      (compat : ∀ used Y, Compat lm c used Y)

theorem lead (lm : Char → Bool) (c : Char) : Lead lm c := by
  cases h1 : Expect.singleOps.lookup c with
  | some tt => exact .single tt h1 (fun r line => by rw [scanToken, h1]) (fun used Y => by rw [Compat.eq_def, h1]; trivial)
  | none =>
    cases h2 : Expect.twoOps.lookup c with
    | some p => exact .two p.1 p.2 h2 (fun r line => by rw [scanToken, h1, h2]) (fun used Y => by rw [Compat.eq_def, h1, h2])
    | none =>
      by_cases h3 : c = '/'
      · exact .slash h3 (fun r line => by rw [scanToken, h1, h2, if_pos h3]) (fun used Y => by rw [Compat.eq_def, h1, h2, if_pos h3])
      · by_cases h4 : Expect.blanks.contains c = true
        · exact .blank h4 (fun r line => by rw [scanToken, h1, h2, if_neg h3, if_pos h4])
            (fun used Y => by rw [Compat.eq_def, h1, h2, if_neg h3, if_pos h4]; trivial)
        · by_cases h5 : c = '\n'
          · exact .newline h5 (fun r line => by rw [scanToken, h1, h2, if_neg h3, if_neg h4, if_pos h5])
              (fun used Y => by rw [Compat.eq_def, h1, h2, if_neg h3, if_neg h4, if_pos h5]; trivial)
          · by_cases h6 : c = '"'
            · exact .quote h6 (fun r line => by rw [scanToken, h1, h2, if_neg h3, if_neg h4, if_neg h5, if_pos h6])
                (fun used Y => by rw [Compat.eq_def, h1, h2, if_neg h3, if_neg h4, if_neg h5, if_pos h6]; trivial)
            · by_cases h7 : isDigit c = true
              · exact .digit h7 (fun r line => by rw [scanToken, h1, h2, if_neg h3, if_neg h4, if_neg h5, if_neg h6, if_pos h7])
                  (fun used Y => by rw [Compat.eq_def, h1, h2, if_neg h3, if_neg h4, if_neg h5, if_neg h6, if_pos h7])
              · by_cases h8 : isAlpha lm c = true
                · exact .word h8 h5
                    (fun r line => by rw [scanToken, h1, h2, if_neg h3, if_neg h4, if_neg h5, if_neg h6, if_neg h7, if_pos h8])
                    (fun used Y => by rw [Compat.eq_def, h1, h2, if_neg h3, if_neg h4, if_neg h5, if_neg h6, if_neg h7, if_pos h8])
                · exact .other h5
                    (fun r line => by rw [scanToken, h1, h2, if_neg h3, if_neg h4, if_neg h5, if_neg h6, if_neg h7, if_neg h8])
                    (fun used Y => by
                      rw [Compat.eq_def, h1, h2, if_neg h3, if_neg h4, if_neg h5, if_neg h6, if_neg h7, if_neg h8]; trivial)

theorem scanLoop_zero (lm : Char → Bool) (src : List Char) (line : Nat) : scanLoop lm 0 src line = none := by
  rw [scanLoop]

theorem scanLoop_nil (lm : Char → Bool) (f line : Nat) : scanLoop lm (f + 1) [] line = some ([⟨.EOF, [], .none, line⟩], []) := by
  rw [scanLoop]

theorem scanLoop_succ {lm : Char → Bool} {src : List Char} {line : Nat} {st : Step}
    (h : scanToken lm src line = some st) (f : Nat) :
    scanLoop lm (f + 1) src line =
      (scanLoop lm f st.rest st.line).map fun p => (st.tok.toList ++ p.1, st.diag.toList ++ p.2) := by
  cases src with
  | nil => cases h
  | cons c r =>
    rw [scanLoop, h]
    dsimp only
    cases scanLoop lm f st.rest st.line <;> rfl

end Borno.Lexer
