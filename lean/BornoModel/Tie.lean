import BornoModel.Expect
import BornoModel.ExpectInv
import BornoModel.Gen.Facts
/-!
# Tie — the regenerated facts equal the tables the model and the theorems are stated over

A regenerated table that must be the expected one literally is so by `rfl` (both sides unfold to
the same list of literals; no string is ever compared character by character); the few ties that
compute something (a lookup, a permutation test) are evaluated by the kernel.  A change to the Go
sources that alters a table makes the corresponding theorem fail; the check names it and searches
for an input on which the property that depends on it now fails.
-/
namespace Borno.Tie
open Borno

theorem tie_tokenTypes : Gen.tokenTypes = TT.all.map TT.name := rfl
theorem tie_keywords : Gen.keywords = Expect.keywordsCp.map (fun p => (p.1, p.2.name)) := rfl
theorem tie_singleOps : Gen.singleOps = Expect.singleOps.map (fun p => (p.1.toNat, p.2.name)) := rfl
theorem tie_twoOps : Gen.twoOps =
    Expect.twoOps.map (fun p => (p.1.toNat, p.2.1.map (fun q => (q.1.toNat, q.2.name)), p.2.2.name)) := rfl
theorem tie_blanks : Gen.blanks = Expect.blanks.map Char.toNat := rfl
theorem tie_otherCases : Gen.otherCases = Expect.otherCases := rfl
theorem tie_digitRanges : Gen.digitRanges = Expect.digitRanges := rfl
theorem tie_digitMap : Gen.digitMap = Expect.digitMap := rfl
theorem tie_isAlpha : Gen.isAlphaBody = Expect.isAlphaBody ∧ Gen.isAlphaNumericBody = Expect.isAlphaNumericBody := ⟨rfl, rfl⟩
theorem tie_reserved : Gen.reserved = Expect.reservedCp := rfl
theorem tie_ladder : Gen.ladder = Expect.ladderFacts ∧ Gen.assignmentOperand = "logicalOR" ∧ Gen.ladderEnd = "unary" := ⟨rfl, rfl, rfl⟩
theorem tie_docLadder :
    ((Gen.docLadder.filter (fun e => e.1 ≠ "parameters" && e.1 ≠ "arguments")).map (·.2.2)).length = Expect.docOps.length ∧
    (((Gen.docLadder.filter (fun e => e.1 ≠ "parameters" && e.1 ≠ "arguments")).map (·.2.2)).zip Expect.docOps).all
      (fun p => p.1.isPerm p.2) = true := by decide +kernel
theorem tie_readmeLadder :
    (((Gen.readmeLadder.filter (fun e => e.1 ≠ "parameters" && e.1 ≠ "arguments")).map (·.2.2)).zip
      (Expect.ladder.filter (fun l => Expect.readmeLevels.contains l.name))).all
      (fun p => p.1.isPerm (p.2.ops.map TT.name)) = true ∧
    (Gen.readmeLadder.filter (fun e => e.1 ≠ "parameters" && e.1 ≠ "arguments")).length = Expect.readmeLevels.length := by decide +kernel
theorem tie_maxParams : Gen.maxParamsTest = Expect.maxParamsTest := rfl
theorem tie_natives : Gen.natives = Expect.nativesCp.map (fun e => (e.1, e.2.1)) := rfl
theorem tie_arities :
    Expect.nativesCp.all (fun e => Gen.arities.lookup e.2.1 == some (Expect.arityText e.2.2.2)) = true ∧
    Gen.arities.lookup "Function" = some "len(f.Declaration.Params)" ∧
    Gen.arities.length = Expect.nativesCp.length + 1 := by decide +kernel
theorem tie_exits : Gen.exits = Expect.exits := rfl
theorem tie_panicSites : Gen.panicSites = Expect.panicSites := rfl
theorem tie_rangeMap : Gen.rangeMapSites = Expect.rangeMapSites := rfl
theorem tie_nondet : Gen.nondetSites = Expect.nondetSites := rfl

end Borno.Tie
