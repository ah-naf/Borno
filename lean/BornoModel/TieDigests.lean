import BornoModel.Gen.Facts
import BornoModel.Lemmas.SortedLookup
/-! Source fingerprints: the normalised text of every modelled Go function (and of every
    case of `eval`) is the text the hand-written model was written against.  One theorem
    per function, so that a change is named. Blessed by `python3 -m vlib.bless`.
    Each fingerprint stands where it stood when the tables were blessed: `rfl` reads the entry at that
    position (no string is compared character by character), and no key occurs twice (`<table>_nodup`:
    the tables `factgen` sorts by name ascend; the cases of `eval` stand in source order and are
    compared pairwise), so `lookup` answers that entry.  When a function has come or gone the positions
    are stale: then the kernel evaluates the lookup itself (`decide +kernel`; plain `decide` would do the
    same work in the elaborator first), so that only what has changed fails. -/
namespace Borno.TieDigests
open Borno SortedLookup
theorem names_evalCases : Gen.evalCases.map Prod.fst = ["prologue", "*ast.PropertyAssignment", "*ast.ObjectLiteral", "*ast.PropertyAccess", "*ast.ArrayLiteral", "*ast.ArrayAccess", "*ast.ArrayAssignment", "*ast.FunctionStmt", "*ast.Return", "*ast.Call", "*ast.PrintStatement", "*ast.ExpressionStatement", "*ast.Literal", "*ast.Grouping", "*ast.Unary", "*ast.Binary", "*ast.VarStmt", "*ast.VarListStmt", "*ast.AssignmentStmt", "*ast.Identifier", "*ast.BlockStmt", "*ast.IfStmt", "*ast.Logical", "*ast.While", "*ast.ForStmt", "*ast.BreakStmt", "*ast.ContinueStmt", "default"] := rfl
theorem evalCases_nodup : (Gen.evalCases.map Prod.fst).Nodup := by decide +kernel
theorem evalCases_prologue : Gen.evalCases.lookup "prologue" = some "if utils.HadRuntimeError { return nil, &ControlFlowSignal{Type: ControlFlowNone, LineNumber: 0} }" := by
  first | exact lookup_of_getElem evalCases_nodup 0 rfl | decide +kernel
theorem evalCases__ast_PropertyAssignment : Gen.evalCases.lookup "*ast.PropertyAssignment" = some "5e4d2857a729a9cd" := by
  first | exact lookup_of_getElem evalCases_nodup 1 rfl | decide +kernel
theorem evalCases__ast_ObjectLiteral : Gen.evalCases.lookup "*ast.ObjectLiteral" = some "518577b5ebde23f7" := by
  first | exact lookup_of_getElem evalCases_nodup 2 rfl | decide +kernel
theorem evalCases__ast_PropertyAccess : Gen.evalCases.lookup "*ast.PropertyAccess" = some "60361a5631d126a3" := by
  first | exact lookup_of_getElem evalCases_nodup 3 rfl | decide +kernel
theorem evalCases__ast_ArrayLiteral : Gen.evalCases.lookup "*ast.ArrayLiteral" = some "d8af36b1e92dafe7" := by
  first | exact lookup_of_getElem evalCases_nodup 4 rfl | decide +kernel
theorem evalCases__ast_ArrayAccess : Gen.evalCases.lookup "*ast.ArrayAccess" = some "fa069dd14e26f51f" := by
  first | exact lookup_of_getElem evalCases_nodup 5 rfl | decide +kernel
theorem evalCases__ast_ArrayAssignment : Gen.evalCases.lookup "*ast.ArrayAssignment" = some "b66c3b0085aa56cc" := by
  first | exact lookup_of_getElem evalCases_nodup 6 rfl | decide +kernel
theorem evalCases__ast_FunctionStmt : Gen.evalCases.lookup "*ast.FunctionStmt" = some "7bdb587faee70d82" := by
  first | exact lookup_of_getElem evalCases_nodup 7 rfl | decide +kernel
theorem evalCases__ast_Return : Gen.evalCases.lookup "*ast.Return" = some "7ada5dd5341d5567" := by
  first | exact lookup_of_getElem evalCases_nodup 8 rfl | decide +kernel
theorem evalCases__ast_Call : Gen.evalCases.lookup "*ast.Call" = some "9a747cd376b157c9" := by
  first | exact lookup_of_getElem evalCases_nodup 9 rfl | decide +kernel
theorem evalCases__ast_PrintStatement : Gen.evalCases.lookup "*ast.PrintStatement" = some "ee89ac60a34b81e4" := by
  first | exact lookup_of_getElem evalCases_nodup 10 rfl | decide +kernel
theorem evalCases__ast_ExpressionStatement : Gen.evalCases.lookup "*ast.ExpressionStatement" = some "79fb84371f0d0702" := by
  first | exact lookup_of_getElem evalCases_nodup 11 rfl | decide +kernel
theorem evalCases__ast_Literal : Gen.evalCases.lookup "*ast.Literal" = some "703ff688ffd37aba" := by
  first | exact lookup_of_getElem evalCases_nodup 12 rfl | decide +kernel
theorem evalCases__ast_Grouping : Gen.evalCases.lookup "*ast.Grouping" = some "3999a403230d27dc" := by
  first | exact lookup_of_getElem evalCases_nodup 13 rfl | decide +kernel
theorem evalCases__ast_Unary : Gen.evalCases.lookup "*ast.Unary" = some "e08a6d71d4d316fa" := by
  first | exact lookup_of_getElem evalCases_nodup 14 rfl | decide +kernel
theorem evalCases__ast_Binary : Gen.evalCases.lookup "*ast.Binary" = some "47ce4c28d01b02c9" := by
  first | exact lookup_of_getElem evalCases_nodup 15 rfl | decide +kernel
theorem evalCases__ast_VarStmt : Gen.evalCases.lookup "*ast.VarStmt" = some "c690e248c3e7bcb8" := by
  first | exact lookup_of_getElem evalCases_nodup 16 rfl | decide +kernel
theorem evalCases__ast_VarListStmt : Gen.evalCases.lookup "*ast.VarListStmt" = some "28050813357d7032" := by
  first | exact lookup_of_getElem evalCases_nodup 17 rfl | decide +kernel
theorem evalCases__ast_AssignmentStmt : Gen.evalCases.lookup "*ast.AssignmentStmt" = some "5be93c916771a2e9" := by
  first | exact lookup_of_getElem evalCases_nodup 18 rfl | decide +kernel
theorem evalCases__ast_Identifier : Gen.evalCases.lookup "*ast.Identifier" = some "4723e201fa69b724" := by
  first | exact lookup_of_getElem evalCases_nodup 19 rfl | decide +kernel
theorem evalCases__ast_BlockStmt : Gen.evalCases.lookup "*ast.BlockStmt" = some "db7d5ad189b71eb9" := by
  first | exact lookup_of_getElem evalCases_nodup 20 rfl | decide +kernel
theorem evalCases__ast_IfStmt : Gen.evalCases.lookup "*ast.IfStmt" = some "56845d0352f2fcdd" := by
  first | exact lookup_of_getElem evalCases_nodup 21 rfl | decide +kernel
theorem evalCases__ast_Logical : Gen.evalCases.lookup "*ast.Logical" = some "6aabae634734ba87" := by
  first | exact lookup_of_getElem evalCases_nodup 22 rfl | decide +kernel
theorem evalCases__ast_While : Gen.evalCases.lookup "*ast.While" = some "71d947ec45e039ce" := by
  first | exact lookup_of_getElem evalCases_nodup 23 rfl | decide +kernel
theorem evalCases__ast_ForStmt : Gen.evalCases.lookup "*ast.ForStmt" = some "843f334c48974f93" := by
  first | exact lookup_of_getElem evalCases_nodup 24 rfl | decide +kernel
theorem evalCases__ast_BreakStmt : Gen.evalCases.lookup "*ast.BreakStmt" = some "639f7ffd91e20421" := by
  first | exact lookup_of_getElem evalCases_nodup 25 rfl | decide +kernel
theorem evalCases__ast_ContinueStmt : Gen.evalCases.lookup "*ast.ContinueStmt" = some "45ea1b124469ff24" := by
  first | exact lookup_of_getElem evalCases_nodup 26 rfl | decide +kernel
theorem evalCases_default : Gen.evalCases.lookup "default" = some "3c7020f988f3bb35" := by
  first | exact lookup_of_getElem evalCases_nodup 27 rfl | decide +kernel
theorem names_interpreterDigests : Gen.interpreterDigests.map Prod.fst = ["Function.Arity", "Function.Call", "Function.String", "Interpreter.Interpret", "NativeAbsFn.Arity", "NativeAbsFn.Call", "NativeAbsFn.String", "NativeAppendFn.Arity", "NativeAppendFn.Call", "NativeAppendFn.String", "NativeClockFn.Arity", "NativeClockFn.Call", "NativeClockFn.String", "NativeCosFn.Arity", "NativeCosFn.Call", "NativeCosFn.String", "NativeDeleteFn.Arity", "NativeDeleteFn.Call", "NativeDeleteFn.String", "NativeInputFn.Arity", "NativeInputFn.Call", "NativeInputFn.String", "NativeKeysFn.Arity", "NativeKeysFn.Call", "NativeKeysFn.String", "NativeLenFn.Arity", "NativeLenFn.Call", "NativeLenFn.String", "NativeMaxFn.Arity", "NativeMaxFn.Call", "NativeMaxFn.String", "NativeMinFn.Arity", "NativeMinFn.Call", "NativeMinFn.String", "NativePowFn.Arity", "NativePowFn.Call", "NativePowFn.String", "NativeRemoveFn.Arity", "NativeRemoveFn.Call", "NativeRemoveFn.String", "NativeRoundFn.Arity", "NativeRoundFn.Call", "NativeRoundFn.String", "NativeSinFn.Arity", "NativeSinFn.Call", "NativeSinFn.String", "NativeSqrtFn.Arity", "NativeSqrtFn.Call", "NativeSqrtFn.String", "NativeTanFn.Arity", "NativeTanFn.Call", "NativeTanFn.String", "NativeValuesFn.Arity", "NativeValuesFn.Call", "NativeValuesFn.String", "NewFunction", "NewInterpreter", "evaluateBinary", "evaluateUnary", "getLineNumber", "handleAddition", "handleArithmetic", "handleBitwise", "handleComparison", "handleEquality", "isEqual", "isTruthy", "sortedKeys", "stringify", "stringifyOperand", "toInt64", "toNumber"] := rfl
theorem interpreterDigests_nodup : (Gen.interpreterDigests.map Prod.fst).Nodup := nodup_of_ascending (by decide +kernel)
theorem interpreterDigests_Function_Arity : Gen.interpreterDigests.lookup "Function.Arity" = some "1bb3c95f6876e535" := by
  first | exact lookup_of_getElem interpreterDigests_nodup 0 rfl | decide +kernel
theorem interpreterDigests_Function_Call : Gen.interpreterDigests.lookup "Function.Call" = some "adde47d8c709d3a5" := by
  first | exact lookup_of_getElem interpreterDigests_nodup 1 rfl | decide +kernel
theorem interpreterDigests_Function_String : Gen.interpreterDigests.lookup "Function.String" = some "1104cf88b1a1ecfe" := by
  first | exact lookup_of_getElem interpreterDigests_nodup 2 rfl | decide +kernel
theorem interpreterDigests_Interpreter_Interpret : Gen.interpreterDigests.lookup "Interpreter.Interpret" = some "8097cb62cd8a62a1" := by
  first | exact lookup_of_getElem interpreterDigests_nodup 3 rfl | decide +kernel
theorem interpreterDigests_NativeAbsFn_Arity : Gen.interpreterDigests.lookup "NativeAbsFn.Arity" = some "a4f8d594ef6b2939" := by
  first | exact lookup_of_getElem interpreterDigests_nodup 4 rfl | decide +kernel
theorem interpreterDigests_NativeAbsFn_Call : Gen.interpreterDigests.lookup "NativeAbsFn.Call" = some "6832ee1ace88b83d" := by
  first | exact lookup_of_getElem interpreterDigests_nodup 5 rfl | decide +kernel
theorem interpreterDigests_NativeAbsFn_String : Gen.interpreterDigests.lookup "NativeAbsFn.String" = some "3491260058541e49" := by
  first | exact lookup_of_getElem interpreterDigests_nodup 6 rfl | decide +kernel
theorem interpreterDigests_NativeAppendFn_Arity : Gen.interpreterDigests.lookup "NativeAppendFn.Arity" = some "07c03775e4f994e9" := by
  first | exact lookup_of_getElem interpreterDigests_nodup 7 rfl | decide +kernel
theorem interpreterDigests_NativeAppendFn_Call : Gen.interpreterDigests.lookup "NativeAppendFn.Call" = some "39db50377b80de20" := by
  first | exact lookup_of_getElem interpreterDigests_nodup 8 rfl | decide +kernel
theorem interpreterDigests_NativeAppendFn_String : Gen.interpreterDigests.lookup "NativeAppendFn.String" = some "42290545f7361545" := by
  first | exact lookup_of_getElem interpreterDigests_nodup 9 rfl | decide +kernel
theorem interpreterDigests_NativeClockFn_Arity : Gen.interpreterDigests.lookup "NativeClockFn.Arity" = some "12d24480349c3fa7" := by
  first | exact lookup_of_getElem interpreterDigests_nodup 10 rfl | decide +kernel
theorem interpreterDigests_NativeClockFn_Call : Gen.interpreterDigests.lookup "NativeClockFn.Call" = some "a895d1a0380062f1" := by
  first | exact lookup_of_getElem interpreterDigests_nodup 11 rfl | decide +kernel
theorem interpreterDigests_NativeClockFn_String : Gen.interpreterDigests.lookup "NativeClockFn.String" = some "a1195b159ea428f1" := by
  first | exact lookup_of_getElem interpreterDigests_nodup 12 rfl | decide +kernel
theorem interpreterDigests_NativeCosFn_Arity : Gen.interpreterDigests.lookup "NativeCosFn.Arity" = some "6972994d400a458d" := by
  first | exact lookup_of_getElem interpreterDigests_nodup 13 rfl | decide +kernel
theorem interpreterDigests_NativeCosFn_Call : Gen.interpreterDigests.lookup "NativeCosFn.Call" = some "0cf9f07228db058b" := by
  first | exact lookup_of_getElem interpreterDigests_nodup 14 rfl | decide +kernel
theorem interpreterDigests_NativeCosFn_String : Gen.interpreterDigests.lookup "NativeCosFn.String" = some "25c28ab80f8be09b" := by
  first | exact lookup_of_getElem interpreterDigests_nodup 15 rfl | decide +kernel
theorem interpreterDigests_NativeDeleteFn_Arity : Gen.interpreterDigests.lookup "NativeDeleteFn.Arity" = some "133d046b79cc633b" := by
  first | exact lookup_of_getElem interpreterDigests_nodup 16 rfl | decide +kernel
theorem interpreterDigests_NativeDeleteFn_Call : Gen.interpreterDigests.lookup "NativeDeleteFn.Call" = some "39b7dae4e3db8921" := by
  first | exact lookup_of_getElem interpreterDigests_nodup 17 rfl | decide +kernel
theorem interpreterDigests_NativeDeleteFn_String : Gen.interpreterDigests.lookup "NativeDeleteFn.String" = some "c3eea93374bdc999" := by
  first | exact lookup_of_getElem interpreterDigests_nodup 18 rfl | decide +kernel
theorem interpreterDigests_NativeInputFn_Arity : Gen.interpreterDigests.lookup "NativeInputFn.Arity" = some "186a9c29cdc179d9" := by
  first | exact lookup_of_getElem interpreterDigests_nodup 19 rfl | decide +kernel
theorem interpreterDigests_NativeInputFn_Call : Gen.interpreterDigests.lookup "NativeInputFn.Call" = some "3e6fcf3a7d9d517a" := by
  first | exact lookup_of_getElem interpreterDigests_nodup 20 rfl | decide +kernel
theorem interpreterDigests_NativeInputFn_String : Gen.interpreterDigests.lookup "NativeInputFn.String" = some "6cd0caff04a5f4b0" := by
  first | exact lookup_of_getElem interpreterDigests_nodup 21 rfl | decide +kernel
theorem interpreterDigests_NativeKeysFn_Arity : Gen.interpreterDigests.lookup "NativeKeysFn.Arity" = some "3b9ba14f55cac15f" := by
  first | exact lookup_of_getElem interpreterDigests_nodup 22 rfl | decide +kernel
theorem interpreterDigests_NativeKeysFn_Call : Gen.interpreterDigests.lookup "NativeKeysFn.Call" = some "9e375fbbab83f906" := by
  first | exact lookup_of_getElem interpreterDigests_nodup 23 rfl | decide +kernel
theorem interpreterDigests_NativeKeysFn_String : Gen.interpreterDigests.lookup "NativeKeysFn.String" = some "f8db19b9578da2e2" := by
  first | exact lookup_of_getElem interpreterDigests_nodup 24 rfl | decide +kernel
theorem interpreterDigests_NativeLenFn_Arity : Gen.interpreterDigests.lookup "NativeLenFn.Arity" = some "712b694b3e423b8c" := by
  first | exact lookup_of_getElem interpreterDigests_nodup 25 rfl | decide +kernel
theorem interpreterDigests_NativeLenFn_Call : Gen.interpreterDigests.lookup "NativeLenFn.Call" = some "75eafdf8791c9363" := by
  first | exact lookup_of_getElem interpreterDigests_nodup 26 rfl | decide +kernel
theorem interpreterDigests_NativeLenFn_String : Gen.interpreterDigests.lookup "NativeLenFn.String" = some "7fc2afa3587cf604" := by
  first | exact lookup_of_getElem interpreterDigests_nodup 27 rfl | decide +kernel
theorem interpreterDigests_NativeMaxFn_Arity : Gen.interpreterDigests.lookup "NativeMaxFn.Arity" = some "d8f424f441125829" := by
  first | exact lookup_of_getElem interpreterDigests_nodup 28 rfl | decide +kernel
theorem interpreterDigests_NativeMaxFn_Call : Gen.interpreterDigests.lookup "NativeMaxFn.Call" = some "66c31902f122270f" := by
  first | exact lookup_of_getElem interpreterDigests_nodup 29 rfl | decide +kernel
theorem interpreterDigests_NativeMaxFn_String : Gen.interpreterDigests.lookup "NativeMaxFn.String" = some "a1bae90036e4a86f" := by
  first | exact lookup_of_getElem interpreterDigests_nodup 30 rfl | decide +kernel
theorem interpreterDigests_NativeMinFn_Arity : Gen.interpreterDigests.lookup "NativeMinFn.Arity" = some "c411297805d190bb" := by
  first | exact lookup_of_getElem interpreterDigests_nodup 31 rfl | decide +kernel
theorem interpreterDigests_NativeMinFn_Call : Gen.interpreterDigests.lookup "NativeMinFn.Call" = some "2eb91460a2345779" := by
  first | exact lookup_of_getElem interpreterDigests_nodup 32 rfl | decide +kernel
theorem interpreterDigests_NativeMinFn_String : Gen.interpreterDigests.lookup "NativeMinFn.String" = some "e24d9e643a6c20ea" := by
  first | exact lookup_of_getElem interpreterDigests_nodup 33 rfl | decide +kernel
theorem interpreterDigests_NativePowFn_Arity : Gen.interpreterDigests.lookup "NativePowFn.Arity" = some "ae3fdf256186ed9f" := by
  first | exact lookup_of_getElem interpreterDigests_nodup 34 rfl | decide +kernel
theorem interpreterDigests_NativePowFn_Call : Gen.interpreterDigests.lookup "NativePowFn.Call" = some "c16e715e73e52e15" := by
  first | exact lookup_of_getElem interpreterDigests_nodup 35 rfl | decide +kernel
theorem interpreterDigests_NativePowFn_String : Gen.interpreterDigests.lookup "NativePowFn.String" = some "6e084f75097073e2" := by
  first | exact lookup_of_getElem interpreterDigests_nodup 36 rfl | decide +kernel
theorem interpreterDigests_NativeRemoveFn_Arity : Gen.interpreterDigests.lookup "NativeRemoveFn.Arity" = some "a961b51bbf763954" := by
  first | exact lookup_of_getElem interpreterDigests_nodup 37 rfl | decide +kernel
theorem interpreterDigests_NativeRemoveFn_Call : Gen.interpreterDigests.lookup "NativeRemoveFn.Call" = some "8d94132facba6ab2" := by
  first | exact lookup_of_getElem interpreterDigests_nodup 38 rfl | decide +kernel
theorem interpreterDigests_NativeRemoveFn_String : Gen.interpreterDigests.lookup "NativeRemoveFn.String" = some "2ea91d9e215abef3" := by
  first | exact lookup_of_getElem interpreterDigests_nodup 39 rfl | decide +kernel
theorem interpreterDigests_NativeRoundFn_Arity : Gen.interpreterDigests.lookup "NativeRoundFn.Arity" = some "0fae2f0a404c07cd" := by
  first | exact lookup_of_getElem interpreterDigests_nodup 40 rfl | decide +kernel
theorem interpreterDigests_NativeRoundFn_Call : Gen.interpreterDigests.lookup "NativeRoundFn.Call" = some "06f00568433a08f2" := by
  first | exact lookup_of_getElem interpreterDigests_nodup 41 rfl | decide +kernel
theorem interpreterDigests_NativeRoundFn_String : Gen.interpreterDigests.lookup "NativeRoundFn.String" = some "e83eaba96f14387c" := by
  first | exact lookup_of_getElem interpreterDigests_nodup 42 rfl | decide +kernel
theorem interpreterDigests_NativeSinFn_Arity : Gen.interpreterDigests.lookup "NativeSinFn.Arity" = some "f19715b8bf9f73a3" := by
  first | exact lookup_of_getElem interpreterDigests_nodup 43 rfl | decide +kernel
theorem interpreterDigests_NativeSinFn_Call : Gen.interpreterDigests.lookup "NativeSinFn.Call" = some "26588e9ad229deed" := by
  first | exact lookup_of_getElem interpreterDigests_nodup 44 rfl | decide +kernel
theorem interpreterDigests_NativeSinFn_String : Gen.interpreterDigests.lookup "NativeSinFn.String" = some "75cbfc522ea3e6cc" := by
  first | exact lookup_of_getElem interpreterDigests_nodup 45 rfl | decide +kernel
theorem interpreterDigests_NativeSqrtFn_Arity : Gen.interpreterDigests.lookup "NativeSqrtFn.Arity" = some "8c41c95cb1e6e895" := by
  first | exact lookup_of_getElem interpreterDigests_nodup 46 rfl | decide +kernel
theorem interpreterDigests_NativeSqrtFn_Call : Gen.interpreterDigests.lookup "NativeSqrtFn.Call" = some "84260ccf7a4a5243" := by
  first | exact lookup_of_getElem interpreterDigests_nodup 47 rfl | decide +kernel
theorem interpreterDigests_NativeSqrtFn_String : Gen.interpreterDigests.lookup "NativeSqrtFn.String" = some "7335984ad97444bb" := by
  first | exact lookup_of_getElem interpreterDigests_nodup 48 rfl | decide +kernel
theorem interpreterDigests_NativeTanFn_Arity : Gen.interpreterDigests.lookup "NativeTanFn.Arity" = some "871376f5cf0e266e" := by
  first | exact lookup_of_getElem interpreterDigests_nodup 49 rfl | decide +kernel
theorem interpreterDigests_NativeTanFn_Call : Gen.interpreterDigests.lookup "NativeTanFn.Call" = some "fd23cdcb7b265f26" := by
  first | exact lookup_of_getElem interpreterDigests_nodup 50 rfl | decide +kernel
theorem interpreterDigests_NativeTanFn_String : Gen.interpreterDigests.lookup "NativeTanFn.String" = some "64edad3e8d799002" := by
  first | exact lookup_of_getElem interpreterDigests_nodup 51 rfl | decide +kernel
theorem interpreterDigests_NativeValuesFn_Arity : Gen.interpreterDigests.lookup "NativeValuesFn.Arity" = some "1b182e94a4459d13" := by
  first | exact lookup_of_getElem interpreterDigests_nodup 52 rfl | decide +kernel
theorem interpreterDigests_NativeValuesFn_Call : Gen.interpreterDigests.lookup "NativeValuesFn.Call" = some "6d0206cd037e429e" := by
  first | exact lookup_of_getElem interpreterDigests_nodup 53 rfl | decide +kernel
theorem interpreterDigests_NativeValuesFn_String : Gen.interpreterDigests.lookup "NativeValuesFn.String" = some "6bf927728f39aa76" := by
  first | exact lookup_of_getElem interpreterDigests_nodup 54 rfl | decide +kernel
theorem interpreterDigests_NewFunction : Gen.interpreterDigests.lookup "NewFunction" = some "bc40cc9efe15081b" := by
  first | exact lookup_of_getElem interpreterDigests_nodup 55 rfl | decide +kernel
theorem interpreterDigests_NewInterpreter : Gen.interpreterDigests.lookup "NewInterpreter" = some "d8402c5e50af3c4f" := by
  first | exact lookup_of_getElem interpreterDigests_nodup 56 rfl | decide +kernel
theorem interpreterDigests_evaluateBinary : Gen.interpreterDigests.lookup "evaluateBinary" = some "45284e1fcd433513" := by
  first | exact lookup_of_getElem interpreterDigests_nodup 57 rfl | decide +kernel
theorem interpreterDigests_evaluateUnary : Gen.interpreterDigests.lookup "evaluateUnary" = some "3556729c586326fa" := by
  first | exact lookup_of_getElem interpreterDigests_nodup 58 rfl | decide +kernel
theorem interpreterDigests_getLineNumber : Gen.interpreterDigests.lookup "getLineNumber" = some "f22ebd2fd4b4c734" := by
  first | exact lookup_of_getElem interpreterDigests_nodup 59 rfl | decide +kernel
theorem interpreterDigests_handleAddition : Gen.interpreterDigests.lookup "handleAddition" = some "4e4e4ddd1f3b4348" := by
  first | exact lookup_of_getElem interpreterDigests_nodup 60 rfl | decide +kernel
theorem interpreterDigests_handleArithmetic : Gen.interpreterDigests.lookup "handleArithmetic" = some "e23002c8149561f8" := by
  first | exact lookup_of_getElem interpreterDigests_nodup 61 rfl | decide +kernel
theorem interpreterDigests_handleBitwise : Gen.interpreterDigests.lookup "handleBitwise" = some "678ecb07ffac5164" := by
  first | exact lookup_of_getElem interpreterDigests_nodup 62 rfl | decide +kernel
theorem interpreterDigests_handleComparison : Gen.interpreterDigests.lookup "handleComparison" = some "c4df7f81adf98fe5" := by
  first | exact lookup_of_getElem interpreterDigests_nodup 63 rfl | decide +kernel
theorem interpreterDigests_handleEquality : Gen.interpreterDigests.lookup "handleEquality" = some "92c987a2f581b6ec" := by
  first | exact lookup_of_getElem interpreterDigests_nodup 64 rfl | decide +kernel
theorem interpreterDigests_isEqual : Gen.interpreterDigests.lookup "isEqual" = some "e538d7e0e1ca60f5" := by
  first | exact lookup_of_getElem interpreterDigests_nodup 65 rfl | decide +kernel
theorem interpreterDigests_isTruthy : Gen.interpreterDigests.lookup "isTruthy" = some "47bd82024624e03f" := by
  first | exact lookup_of_getElem interpreterDigests_nodup 66 rfl | decide +kernel
theorem interpreterDigests_sortedKeys : Gen.interpreterDigests.lookup "sortedKeys" = some "b66b31ae635faa13" := by
  first | exact lookup_of_getElem interpreterDigests_nodup 67 rfl | decide +kernel
theorem interpreterDigests_stringify : Gen.interpreterDigests.lookup "stringify" = some "f771b37e914866cd" := by
  first | exact lookup_of_getElem interpreterDigests_nodup 68 rfl | decide +kernel
theorem interpreterDigests_stringifyOperand : Gen.interpreterDigests.lookup "stringifyOperand" = some "5083197a6516fc78" := by
  first | exact lookup_of_getElem interpreterDigests_nodup 69 rfl | decide +kernel
theorem interpreterDigests_toInt64 : Gen.interpreterDigests.lookup "toInt64" = some "c05bc25abd5fb7c6" := by
  first | exact lookup_of_getElem interpreterDigests_nodup 70 rfl | decide +kernel
theorem interpreterDigests_toNumber : Gen.interpreterDigests.lookup "toNumber" = some "d886e1ff02a66778" := by
  first | exact lookup_of_getElem interpreterDigests_nodup 71 rfl | decide +kernel
theorem names_parserDigests : Gen.parserDigests.map Prod.fst = ["NewParser", "ParseError.Error", "Parser.IfStatement", "Parser.Parse", "Parser.advance", "Parser.arrayLiteral", "Parser.assignment", "Parser.bitwiseAND", "Parser.bitwiseOR", "Parser.bitwiseXOR", "Parser.block", "Parser.call", "Parser.check", "Parser.comparison", "Parser.consume", "Parser.declaration", "Parser.equality", "Parser.error", "Parser.expression", "Parser.expressionStatement", "Parser.factor", "Parser.finishCall", "Parser.forStatement", "Parser.function", "Parser.isAtEnd", "Parser.logicalAnd", "Parser.logicalOR", "Parser.match", "Parser.objectLiteral", "Parser.peek", "Parser.power", "Parser.previous", "Parser.primary", "Parser.printStatement", "Parser.returnStatement", "Parser.shift", "Parser.statement", "Parser.term", "Parser.unary", "Parser.varDeclaration", "Parser.while"] := rfl
theorem parserDigests_nodup : (Gen.parserDigests.map Prod.fst).Nodup := nodup_of_ascending (by decide +kernel)
theorem parserDigests_NewParser : Gen.parserDigests.lookup "NewParser" = some "539f4c470e45c45a" := by
  first | exact lookup_of_getElem parserDigests_nodup 0 rfl | decide +kernel
theorem parserDigests_ParseError_Error : Gen.parserDigests.lookup "ParseError.Error" = some "7016769330d23688" := by
  first | exact lookup_of_getElem parserDigests_nodup 1 rfl | decide +kernel
theorem parserDigests_Parser_IfStatement : Gen.parserDigests.lookup "Parser.IfStatement" = some "76e3667a8ccebebb" := by
  first | exact lookup_of_getElem parserDigests_nodup 2 rfl | decide +kernel
theorem parserDigests_Parser_Parse : Gen.parserDigests.lookup "Parser.Parse" = some "072f0b925ea70922" := by
  first | exact lookup_of_getElem parserDigests_nodup 3 rfl | decide +kernel
theorem parserDigests_Parser_advance : Gen.parserDigests.lookup "Parser.advance" = some "5666d20d5c4c2966" := by
  first | exact lookup_of_getElem parserDigests_nodup 4 rfl | decide +kernel
theorem parserDigests_Parser_arrayLiteral : Gen.parserDigests.lookup "Parser.arrayLiteral" = some "12d24e2891c9c525" := by
  first | exact lookup_of_getElem parserDigests_nodup 5 rfl | decide +kernel
theorem parserDigests_Parser_assignment : Gen.parserDigests.lookup "Parser.assignment" = some "1252aa56250f0213" := by
  first | exact lookup_of_getElem parserDigests_nodup 6 rfl | decide +kernel
theorem parserDigests_Parser_bitwiseAND : Gen.parserDigests.lookup "Parser.bitwiseAND" = some "e98be4c066768f79" := by
  first | exact lookup_of_getElem parserDigests_nodup 7 rfl | decide +kernel
theorem parserDigests_Parser_bitwiseOR : Gen.parserDigests.lookup "Parser.bitwiseOR" = some "d526edb08ed04859" := by
  first | exact lookup_of_getElem parserDigests_nodup 8 rfl | decide +kernel
theorem parserDigests_Parser_bitwiseXOR : Gen.parserDigests.lookup "Parser.bitwiseXOR" = some "a2622cd9327c138a" := by
  first | exact lookup_of_getElem parserDigests_nodup 9 rfl | decide +kernel
theorem parserDigests_Parser_block : Gen.parserDigests.lookup "Parser.block" = some "4d93734d5e43f34e" := by
  first | exact lookup_of_getElem parserDigests_nodup 10 rfl | decide +kernel
theorem parserDigests_Parser_call : Gen.parserDigests.lookup "Parser.call" = some "206b9430a1b59e02" := by
  first | exact lookup_of_getElem parserDigests_nodup 11 rfl | decide +kernel
theorem parserDigests_Parser_check : Gen.parserDigests.lookup "Parser.check" = some "7f6debad30d0fcd2" := by
  first | exact lookup_of_getElem parserDigests_nodup 12 rfl | decide +kernel
theorem parserDigests_Parser_comparison : Gen.parserDigests.lookup "Parser.comparison" = some "2cc78e1170576669" := by
  first | exact lookup_of_getElem parserDigests_nodup 13 rfl | decide +kernel
theorem parserDigests_Parser_consume : Gen.parserDigests.lookup "Parser.consume" = some "9f3ef5fae84b4431" := by
  first | exact lookup_of_getElem parserDigests_nodup 14 rfl | decide +kernel
theorem parserDigests_Parser_declaration : Gen.parserDigests.lookup "Parser.declaration" = some "c6d83a477b85fc04" := by
  first | exact lookup_of_getElem parserDigests_nodup 15 rfl | decide +kernel
theorem parserDigests_Parser_equality : Gen.parserDigests.lookup "Parser.equality" = some "3ccae939ff6291d6" := by
  first | exact lookup_of_getElem parserDigests_nodup 16 rfl | decide +kernel
theorem parserDigests_Parser_error : Gen.parserDigests.lookup "Parser.error" = some "0d8ed2b6fdc54ce5" := by
  first | exact lookup_of_getElem parserDigests_nodup 17 rfl | decide +kernel
theorem parserDigests_Parser_expression : Gen.parserDigests.lookup "Parser.expression" = some "6cfc0770e33bdc34" := by
  first | exact lookup_of_getElem parserDigests_nodup 18 rfl | decide +kernel
theorem parserDigests_Parser_expressionStatement : Gen.parserDigests.lookup "Parser.expressionStatement" = some "a171c87301b3c83a" := by
  first | exact lookup_of_getElem parserDigests_nodup 19 rfl | decide +kernel
theorem parserDigests_Parser_factor : Gen.parserDigests.lookup "Parser.factor" = some "fca775d712796861" := by
  first | exact lookup_of_getElem parserDigests_nodup 20 rfl | decide +kernel
theorem parserDigests_Parser_finishCall : Gen.parserDigests.lookup "Parser.finishCall" = some "b64ec8b4ea86e843" := by
  first | exact lookup_of_getElem parserDigests_nodup 21 rfl | decide +kernel
theorem parserDigests_Parser_forStatement : Gen.parserDigests.lookup "Parser.forStatement" = some "23c3c336b87aea22" := by
  first | exact lookup_of_getElem parserDigests_nodup 22 rfl | decide +kernel
theorem parserDigests_Parser_function : Gen.parserDigests.lookup "Parser.function" = some "4cad45c12f6e7fe1" := by
  first | exact lookup_of_getElem parserDigests_nodup 23 rfl | decide +kernel
theorem parserDigests_Parser_isAtEnd : Gen.parserDigests.lookup "Parser.isAtEnd" = some "16d28f77fdfb4f4e" := by
  first | exact lookup_of_getElem parserDigests_nodup 24 rfl | decide +kernel
theorem parserDigests_Parser_logicalAnd : Gen.parserDigests.lookup "Parser.logicalAnd" = some "90410cbcbc573587" := by
  first | exact lookup_of_getElem parserDigests_nodup 25 rfl | decide +kernel
theorem parserDigests_Parser_logicalOR : Gen.parserDigests.lookup "Parser.logicalOR" = some "83f182e0e0300dcf" := by
  first | exact lookup_of_getElem parserDigests_nodup 26 rfl | decide +kernel
theorem parserDigests_Parser_match : Gen.parserDigests.lookup "Parser.match" = some "228e15b8bc728a4c" := by
  first | exact lookup_of_getElem parserDigests_nodup 27 rfl | decide +kernel
theorem parserDigests_Parser_objectLiteral : Gen.parserDigests.lookup "Parser.objectLiteral" = some "017b1e6b7adf537c" := by
  first | exact lookup_of_getElem parserDigests_nodup 28 rfl | decide +kernel
theorem parserDigests_Parser_peek : Gen.parserDigests.lookup "Parser.peek" = some "2895f2729de857ec" := by
  first | exact lookup_of_getElem parserDigests_nodup 29 rfl | decide +kernel
theorem parserDigests_Parser_power : Gen.parserDigests.lookup "Parser.power" = some "d84c7da17a15bcf9" := by
  first | exact lookup_of_getElem parserDigests_nodup 30 rfl | decide +kernel
theorem parserDigests_Parser_previous : Gen.parserDigests.lookup "Parser.previous" = some "a2a0e3f19ddc2243" := by
  first | exact lookup_of_getElem parserDigests_nodup 31 rfl | decide +kernel
theorem parserDigests_Parser_primary : Gen.parserDigests.lookup "Parser.primary" = some "61aee28bf4077de4" := by
  first | exact lookup_of_getElem parserDigests_nodup 32 rfl | decide +kernel
theorem parserDigests_Parser_printStatement : Gen.parserDigests.lookup "Parser.printStatement" = some "449c197dcaa8c3a2" := by
  first | exact lookup_of_getElem parserDigests_nodup 33 rfl | decide +kernel
theorem parserDigests_Parser_returnStatement : Gen.parserDigests.lookup "Parser.returnStatement" = some "786a1b596e3cdb70" := by
  first | exact lookup_of_getElem parserDigests_nodup 34 rfl | decide +kernel
theorem parserDigests_Parser_shift : Gen.parserDigests.lookup "Parser.shift" = some "fe49d27d215da4e1" := by
  first | exact lookup_of_getElem parserDigests_nodup 35 rfl | decide +kernel
theorem parserDigests_Parser_statement : Gen.parserDigests.lookup "Parser.statement" = some "39514bec7886825a" := by
  first | exact lookup_of_getElem parserDigests_nodup 36 rfl | decide +kernel
theorem parserDigests_Parser_term : Gen.parserDigests.lookup "Parser.term" = some "040f2fb7709088f4" := by
  first | exact lookup_of_getElem parserDigests_nodup 37 rfl | decide +kernel
theorem parserDigests_Parser_unary : Gen.parserDigests.lookup "Parser.unary" = some "b433174caba07288" := by
  first | exact lookup_of_getElem parserDigests_nodup 38 rfl | decide +kernel
theorem parserDigests_Parser_varDeclaration : Gen.parserDigests.lookup "Parser.varDeclaration" = some "76d9fa8113cb86ed" := by
  first | exact lookup_of_getElem parserDigests_nodup 39 rfl | decide +kernel
theorem parserDigests_Parser_while : Gen.parserDigests.lookup "Parser.while" = some "4b81ea9e66e7cd29" := by
  first | exact lookup_of_getElem parserDigests_nodup 40 rfl | decide +kernel
theorem names_lexerDigests : Gen.lexerDigests.map Prod.fst = ["NewScanner", "Scanner.AddToken", "Scanner.ScanTokens", "Scanner.addToken", "Scanner.advance", "Scanner.identifier", "Scanner.isAtEnd", "Scanner.match", "Scanner.multilineComment", "Scanner.number", "Scanner.peek", "Scanner.peekNext", "Scanner.scanToken", "Scanner.stringLiteral", "isAlpha", "isAlphaNumeric", "isDigit"] := rfl
theorem lexerDigests_nodup : (Gen.lexerDigests.map Prod.fst).Nodup := nodup_of_ascending (by decide +kernel)
theorem lexerDigests_NewScanner : Gen.lexerDigests.lookup "NewScanner" = some "0d1150fe233f0c7f" := by
  first | exact lookup_of_getElem lexerDigests_nodup 0 rfl | decide +kernel
theorem lexerDigests_Scanner_AddToken : Gen.lexerDigests.lookup "Scanner.AddToken" = some "54ad279cee9d6766" := by
  first | exact lookup_of_getElem lexerDigests_nodup 1 rfl | decide +kernel
theorem lexerDigests_Scanner_ScanTokens : Gen.lexerDigests.lookup "Scanner.ScanTokens" = some "e4daf471a78016df" := by
  first | exact lookup_of_getElem lexerDigests_nodup 2 rfl | decide +kernel
theorem lexerDigests_Scanner_addToken : Gen.lexerDigests.lookup "Scanner.addToken" = some "d820ea73c275f9b4" := by
  first | exact lookup_of_getElem lexerDigests_nodup 3 rfl | decide +kernel
theorem lexerDigests_Scanner_advance : Gen.lexerDigests.lookup "Scanner.advance" = some "223ff61ed82d0de3" := by
  first | exact lookup_of_getElem lexerDigests_nodup 4 rfl | decide +kernel
theorem lexerDigests_Scanner_identifier : Gen.lexerDigests.lookup "Scanner.identifier" = some "3f0c483acc1fb391" := by
  first | exact lookup_of_getElem lexerDigests_nodup 5 rfl | decide +kernel
theorem lexerDigests_Scanner_isAtEnd : Gen.lexerDigests.lookup "Scanner.isAtEnd" = some "f79c05212dee1189" := by
  first | exact lookup_of_getElem lexerDigests_nodup 6 rfl | decide +kernel
theorem lexerDigests_Scanner_match : Gen.lexerDigests.lookup "Scanner.match" = some "e610a330f0b22d83" := by
  first | exact lookup_of_getElem lexerDigests_nodup 7 rfl | decide +kernel
theorem lexerDigests_Scanner_multilineComment : Gen.lexerDigests.lookup "Scanner.multilineComment" = some "77688dfc7bbed4b0" := by
  first | exact lookup_of_getElem lexerDigests_nodup 8 rfl | decide +kernel
theorem lexerDigests_Scanner_number : Gen.lexerDigests.lookup "Scanner.number" = some "f310543fe153a253" := by
  first | exact lookup_of_getElem lexerDigests_nodup 9 rfl | decide +kernel
theorem lexerDigests_Scanner_peek : Gen.lexerDigests.lookup "Scanner.peek" = some "722391435e76b0ab" := by
  first | exact lookup_of_getElem lexerDigests_nodup 10 rfl | decide +kernel
theorem lexerDigests_Scanner_peekNext : Gen.lexerDigests.lookup "Scanner.peekNext" = some "9e24089f0a699da3" := by
  first | exact lookup_of_getElem lexerDigests_nodup 11 rfl | decide +kernel
theorem lexerDigests_Scanner_scanToken : Gen.lexerDigests.lookup "Scanner.scanToken" = some "7a1d987017b9791a" := by
  first | exact lookup_of_getElem lexerDigests_nodup 12 rfl | decide +kernel
theorem lexerDigests_Scanner_stringLiteral : Gen.lexerDigests.lookup "Scanner.stringLiteral" = some "f0cfb8becd1b5e83" := by
  first | exact lookup_of_getElem lexerDigests_nodup 13 rfl | decide +kernel
theorem lexerDigests_isAlpha : Gen.lexerDigests.lookup "isAlpha" = some "6ca084e688dc4a9c" := by
  first | exact lookup_of_getElem lexerDigests_nodup 14 rfl | decide +kernel
theorem lexerDigests_isAlphaNumeric : Gen.lexerDigests.lookup "isAlphaNumeric" = some "c1c5bcc63e121722" := by
  first | exact lookup_of_getElem lexerDigests_nodup 15 rfl | decide +kernel
theorem lexerDigests_isDigit : Gen.lexerDigests.lookup "isDigit" = some "b91766e1226e77c1" := by
  first | exact lookup_of_getElem lexerDigests_nodup 16 rfl | decide +kernel
theorem names_environmentDigests : Gen.environmentDigests.map Prod.fst = ["Environment.Assign", "Environment.Define", "Environment.Get", "Environment.GetInCurrentScope", "NewEnvironment", "NewEnvironmentWithParent"] := rfl
theorem environmentDigests_nodup : (Gen.environmentDigests.map Prod.fst).Nodup := nodup_of_ascending (by decide +kernel)
theorem environmentDigests_Environment_Assign : Gen.environmentDigests.lookup "Environment.Assign" = some "538775f1af611346" := by
  first | exact lookup_of_getElem environmentDigests_nodup 0 rfl | decide +kernel
theorem environmentDigests_Environment_Define : Gen.environmentDigests.lookup "Environment.Define" = some "79e1fca40fc72e47" := by
  first | exact lookup_of_getElem environmentDigests_nodup 1 rfl | decide +kernel
theorem environmentDigests_Environment_Get : Gen.environmentDigests.lookup "Environment.Get" = some "77e1b8eb2df5e0c9" := by
  first | exact lookup_of_getElem environmentDigests_nodup 2 rfl | decide +kernel
theorem environmentDigests_Environment_GetInCurrentScope : Gen.environmentDigests.lookup "Environment.GetInCurrentScope" = some "7f9e6b35318d85d2" := by
  first | exact lookup_of_getElem environmentDigests_nodup 3 rfl | decide +kernel
theorem environmentDigests_NewEnvironment : Gen.environmentDigests.lookup "NewEnvironment" = some "bd390b15c803a456" := by
  first | exact lookup_of_getElem environmentDigests_nodup 4 rfl | decide +kernel
theorem environmentDigests_NewEnvironmentWithParent : Gen.environmentDigests.lookup "NewEnvironmentWithParent" = some "da23b3324264ac58" := by
  first | exact lookup_of_getElem environmentDigests_nodup 5 rfl | decide +kernel
theorem names_utilsDigests : Gen.utilsDigests.map Prod.fst = ["ConvertBanglaDigitsToASCII", "GlobalError", "GlobalErrorToken", "RuntimeError", "report"] := rfl
theorem utilsDigests_nodup : (Gen.utilsDigests.map Prod.fst).Nodup := nodup_of_ascending (by decide +kernel)
theorem utilsDigests_ConvertBanglaDigitsToASCII : Gen.utilsDigests.lookup "ConvertBanglaDigitsToASCII" = some "0044ddbb02c644b6" := by
  first | exact lookup_of_getElem utilsDigests_nodup 0 rfl | decide +kernel
theorem utilsDigests_GlobalError : Gen.utilsDigests.lookup "GlobalError" = some "6e4f8621e551b432" := by
  first | exact lookup_of_getElem utilsDigests_nodup 1 rfl | decide +kernel
theorem utilsDigests_GlobalErrorToken : Gen.utilsDigests.lookup "GlobalErrorToken" = some "027b75088e0408e7" := by
  first | exact lookup_of_getElem utilsDigests_nodup 2 rfl | decide +kernel
theorem utilsDigests_RuntimeError : Gen.utilsDigests.lookup "RuntimeError" = some "d2147858f07d27b6" := by
  first | exact lookup_of_getElem utilsDigests_nodup 3 rfl | decide +kernel
theorem utilsDigests_report : Gen.utilsDigests.lookup "report" = some "be661ddc4bb356c9" := by
  first | exact lookup_of_getElem utilsDigests_nodup 4 rfl | decide +kernel
theorem names_mainDigests : Gen.mainDigests.map Prod.fst = ["main", "run", "runFile", "runPrompt"] := rfl
theorem mainDigests_nodup : (Gen.mainDigests.map Prod.fst).Nodup := nodup_of_ascending (by decide +kernel)
theorem mainDigests_main : Gen.mainDigests.lookup "main" = some "0acc9c1690ce0696" := by
  first | exact lookup_of_getElem mainDigests_nodup 0 rfl | decide +kernel
theorem mainDigests_run : Gen.mainDigests.lookup "run" = some "681b95a11b9e1805" := by
  first | exact lookup_of_getElem mainDigests_nodup 1 rfl | decide +kernel
theorem mainDigests_runFile : Gen.mainDigests.lookup "runFile" = some "c114582f7f1965fd" := by
  first | exact lookup_of_getElem mainDigests_nodup 2 rfl | decide +kernel
theorem mainDigests_runPrompt : Gen.mainDigests.lookup "runPrompt" = some "fe18cf301b8ba985" := by
  first | exact lookup_of_getElem mainDigests_nodup 3 rfl | decide +kernel
end Borno.TieDigests
